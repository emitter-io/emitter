/-
  Shared vocabulary of the executable models (core Lean only; no Mathlib), and the lemmas every lemma file shares:
  big-endian byte strings as numbers (`beNat`, `beBytes`), the inversion rule of `Outcome.map`, `Bits.forall_byte`.
-/
namespace Emitter

abbrev Bytes := List UInt8

/-- Outcome of a Go function in the model: a value, an error return, or a Go panic. -/
inductive Outcome (α : Type) where
  | ok (a : α)
  | err (kind : String)
  | panic (what : String)
deriving Repr, DecidableEq

namespace Outcome
def isPanic {α} : Outcome α → Bool
  | panic _ => true
  | _ => false
def bind {α β} (o : Outcome α) (f : α → Outcome β) : Outcome β :=
  match o with
  | ok a => f a
  | err k => err k
  | panic w => panic w
def map {α β} (f : α → β) (o : Outcome α) : Outcome β := o.bind (fun a => ok (f a))
instance : Monad Outcome where
  pure := ok
  bind := bind
end Outcome

theorem Outcome.map_eq_ok {α β} {o : Outcome α} {f : α → β} {b : β} :
    o.map f = .ok b ↔ ∃ a, o = .ok a ∧ f a = b := by
  cases o <;> simp [Outcome.map, Outcome.bind]

/-- a guard that returns an error: the whole succeeds iff the guard is false and the rest succeeds -/
theorem Outcome.ite_err_eq_ok {α} {c : Prop} [Decidable c] {x : Outcome α} {s : String} {a : α} :
    (if c then .err s else x) = .ok a ↔ ¬ c ∧ x = .ok a := by
  by_cases h : c <;> simp [h]

/-! ### hex helpers used by the line protocol (driver side only) -/

def hexDigit (n : Nat) : Char :=
  if n < 10 then Char.ofNat (48 + n) else Char.ofNat (87 + n)

def hexOfByte (b : UInt8) : String :=
  String.ofList [hexDigit (b.toNat / 16), hexDigit (b.toNat % 16)]

def hexOfBytes (bs : Bytes) : String :=
  if bs.isEmpty then "-" else String.join (bs.map hexOfByte)

def hexVal (c : Char) : Option Nat :=
  if '0' ≤ c ∧ c ≤ '9' then some (c.toNat - 48)
  else if 'a' ≤ c ∧ c ≤ 'f' then some (c.toNat - 87)
  else if 'A' ≤ c ∧ c ≤ 'F' then some (c.toNat - 55)
  else none

def bytesOfHexChars : List Char → Option Bytes
  | [] => some []
  | a :: b :: rest => do
      let x ← hexVal a
      let y ← hexVal b
      let r ← bytesOfHexChars rest
      pure (UInt8.ofNat (x * 16 + y) :: r)
  | _ => none

/-- "-" is the empty byte string. -/
def bytesOfHex (s : String) : Option Bytes :=
  if s == "-" then some [] else bytesOfHexChars s.toList

def strBytes (s : String) : Bytes := s.toUTF8.toList

/-- big-endian 32-bit read/write on byte lists. Go writes `uint32(a)<<24 | uint32(b)<<16 | …`
and `byte(x>>24)` …; the model states the same function arithmetically (the shifted operands
occupy disjoint bit ranges, so `|` is `+`). That the two forms agree is proved in `Lemmas/Bits.lean`
(`or16`, `or32`, `or32_le`, `hi8_16`, `b1_32…b3_32`) and used by the tie theorems; where no unit is
translated the correspondence check exercises it. -/
def be32 (a b c d : UInt8) : UInt32 :=
  UInt32.ofNat (a.toNat * 16777216 + b.toNat * 65536 + c.toNat * 256 + d.toNat)

def putBe32 (x : UInt32) : Bytes :=
  [UInt8.ofNat (x.toNat / 16777216), UInt8.ofNat (x.toNat / 65536), UInt8.ofNat (x.toNat / 256), UInt8.ofNat x.toNat]

def be16 (a b : UInt8) : UInt16 := UInt16.ofNat (a.toNat * 256 + b.toNat)
def putBe16 (x : UInt16) : Bytes := [UInt8.ofNat (x.toNat / 256), UInt8.ofNat x.toNat]

/-! ### big-endian byte strings as numbers

`beNat` / `beBytes` are the positional reading of a byte string and its inverse for any width; the fixed-width
functions above (and `Cluster.be64`, `Cluster.rdNat`) are instances, so their round trips are instances too. -/

/-- value of a big-endian byte string -/
def beNat (bs : Bytes) : Nat := bs.foldl (fun acc b => acc * 256 + b.toNat) 0

/-- the `k` low base-256 digits of `n`, most significant first -/
def beBytes : Nat → Nat → Bytes
  | 0, _ => []
  | k + 1, n => UInt8.ofNat (n / 256 ^ k) :: beBytes k n

theorem foldl_be (bs : Bytes) :
    ∀ acc, bs.foldl (fun acc b => acc * 256 + b.toNat) acc = acc * 256 ^ bs.length + beNat bs := by
  induction bs with
  | nil => intro acc; simp [beNat]
  | cons b bs ih =>
    intro acc
    rw [beNat, List.foldl_cons, List.foldl_cons, ih, ih (0 * 256 + b.toNat), List.length_cons, Nat.pow_succ,
      Nat.add_mul, Nat.zero_mul, Nat.zero_add, Nat.mul_assoc, Nat.mul_comm 256, Nat.add_assoc]

theorem beNat_cons (b : UInt8) (bs : Bytes) : beNat (b :: bs) = b.toNat * 256 ^ bs.length + beNat bs := by
  rw [beNat, List.foldl_cons, foldl_be, Nat.zero_mul, Nat.zero_add]

theorem beBytes_length : ∀ k n, (beBytes k n).length = k
  | 0, _ => rfl
  | k + 1, n => by rw [beBytes, List.length_cons, beBytes_length k]

theorem beNat_beBytes : ∀ (k n : Nat), beNat (beBytes k n) = n % 256 ^ k
  | 0, n => by simp [beBytes, beNat, Nat.mod_one]
  | k + 1, n => by
    have e : (UInt8.ofNat (n / 256 ^ k)).toNat = n / 256 ^ k % 256 := UInt8.toNat_ofNat' ..
    rw [beBytes, beNat_cons, beNat_beBytes k, beBytes_length, e, Nat.pow_succ, Nat.mod_mul, Nat.mul_comm,
      Nat.add_comm]

theorem beNat_lt (bs : Bytes) : beNat bs < 256 ^ bs.length := by
  induction bs with
  | nil => simp [beNat]
  | cons b bs ih =>
    have hb : b.toNat + 1 ≤ 256 := b.toNat_lt
    have := Nat.mul_le_mul_right (256 ^ bs.length) hb
    rw [beNat_cons, List.length_cons, Nat.pow_succ, Nat.mul_comm _ 256]
    rw [Nat.add_mul, Nat.one_mul] at this
    omega

theorem beBytes_mod : ∀ (k n : Nat), beBytes k (n % 256 ^ k) = beBytes k n
  | 0, _ => rfl
  | k + 1, n => by
    have t : beBytes k (n % 256 ^ (k + 1)) = beBytes k n := by
      rw [← beBytes_mod k (n % 256 ^ (k + 1)), Nat.pow_succ, Nat.mod_mul_right_mod, beBytes_mod k n]
    have hd : UInt8.ofNat (n % 256 ^ (k + 1) / 256 ^ k) = UInt8.ofNat (n / 256 ^ k) := by
      apply UInt8.toNat.inj
      simp only [UInt8.toNat_ofNat', Nat.reducePow, Nat.pow_succ, Nat.mod_mul_right_div_self, Nat.mod_mod]
    rw [beBytes, beBytes, t, hd]

theorem beBytes_beNat (bs : Bytes) : beBytes bs.length (beNat bs) = bs := by
  induction bs with
  | nil => rfl
  | cons b bs ih =>
    have h := beNat_lt bs
    rw [List.length_cons, beBytes, beNat_cons, ← beBytes_mod bs.length, Nat.mul_add_mod_self_right,
      Nat.mod_eq_of_lt h, ih, Nat.mul_comm, Nat.mul_add_div (Nat.pow_pos (by decide)), Nat.div_eq_of_lt h,
      Nat.add_zero, UInt8.ofNat_toNat]

theorem putBe32_eq (x : UInt32) : putBe32 x = beBytes 4 x.toNat := by
  simp only [putBe32, beBytes, Nat.reducePow, Nat.div_one]

theorem putBe32_length (x : UInt32) : (putBe32 x).length = 4 := rfl

theorem beNat_putBe32 (x : UInt32) : beNat (putBe32 x) = x.toNat := by
  rw [putBe32_eq, beNat_beBytes, Nat.mod_eq_of_lt x.toNat_lt]

theorem be32_eq (a b c d : UInt8) : be32 a b c d = UInt32.ofNat (beNat [a, b, c, d]) := by
  rw [be32]
  refine congrArg UInt32.ofNat ?_
  simp only [beNat, List.foldl_cons, List.foldl_nil]
  omega

theorem putBe16_eq (x : UInt16) : putBe16 x = beBytes 2 x.toNat := by
  simp only [putBe16, beBytes, Nat.reducePow, Nat.div_one]

theorem be16_eq (a b : UInt8) : be16 a b = UInt16.ofNat (beNat [a, b]) := by
  simp only [be16, beNat, List.foldl_cons, List.foldl_nil, Nat.zero_mul, Nat.zero_add]

theorem be32_putBe32 (x : UInt32) :
    be32 (UInt8.ofNat (x.toNat / 16777216)) (UInt8.ofNat (x.toNat / 65536)) (UInt8.ofNat (x.toNat / 256))
      (UInt8.ofNat x.toNat) = x := by
  rw [be32_eq, ← putBe32, beNat_putBe32, UInt32.ofNat_toNat]

theorem putBe32_be32 (a b c d : UInt8) : putBe32 (be32 a b c d) = [a, b, c, d] := by
  have h : beNat [a, b, c, d] < 2 ^ 32 := Nat.lt_of_lt_of_eq (beNat_lt _) (by simp)
  rw [putBe32_eq, be32_eq, UInt32.toNat_ofNat', Nat.mod_eq_of_lt h]
  exact beBytes_beNat [a, b, c, d]

theorem be16_putBe16 (x : UInt16) : be16 (UInt8.ofNat (x.toNat / 256)) (UInt8.ofNat x.toNat) = x := by
  rw [be16_eq, ← putBe16, putBe16_eq, beNat_beBytes, Nat.mod_eq_of_lt x.toNat_lt, UInt16.ofNat_toNat]

theorem putBe16_be16 (a b : UInt8) : putBe16 (be16 a b) = [a, b] := by
  have h : beNat [a, b] < 2 ^ 16 := Nat.lt_of_lt_of_eq (beNat_lt _) (by simp)
  rw [putBe16_eq, be16_eq, UInt16.toNat_ofNat', Nat.mod_eq_of_lt h]
  exact beBytes_beNat [a, b]

/-! the 24-bit word (a base64 group, the bit path of a key's target) has no type of its own: the same two
inverses, on three bytes -/

theorem beNat3 (a b c : UInt8) : beNat [a, b, c] = a.toNat * 65536 + b.toNat * 256 + c.toNat := by
  simp only [beNat, List.foldl_cons, List.foldl_nil]; omega

theorem beBytes3 (v : Nat) : beBytes 3 v = [UInt8.ofNat (v / 65536), UInt8.ofNat (v / 256), UInt8.ofNat v] := by
  simp only [beBytes, Nat.reducePow, Nat.div_one]

/-- a value below `2 ^ 24` is the value of its three digits -/
theorem be24_digits (v : Nat) (hv : v < 16777216) :
    (UInt8.ofNat (v / 65536)).toNat * 65536 + (UInt8.ofNat (v / 256)).toNat * 256 + (UInt8.ofNat v).toNat = v := by
  rw [← beNat3, ← beBytes3, beNat_beBytes]; exact Nat.mod_eq_of_lt hv

/-- three bytes are the digits of their value, which is below `2 ^ 24`; the value is a variable so that a caller can
give it without its zero bytes (the tails of `b64Encode`) -/
theorem be24_bytes (a b c : UInt8) (v : Nat) (hv : v = a.toNat * 65536 + b.toNat * 256 + c.toNat) :
    v < 16777216 ∧ [UInt8.ofNat (v / 65536), UInt8.ofNat (v / 256), UInt8.ofNat v] = [a, b, c] := by
  rw [hv, ← beNat3, ← beBytes3]
  exact ⟨Nat.lt_of_lt_of_eq (beNat_lt [a, b, c]) (by simp), beBytes_beNat [a, b, c]⟩

namespace Bits
/-- a predicate that holds of the 256 bytes holds of every byte (for kernel evaluation of one-byte facts) -/
theorem forall_byte {P : UInt8 → Prop} (h : ∀ n, n < 256 → P (UInt8.ofNat n)) (x : UInt8) : P x :=
  UInt8.ofNat_toNat (x := x) ▸ h x.toNat x.toNat_lt

theorem forall_uint8 (p : UInt8 → Bool) (h : ∀ n, n < 256 → p (UInt8.ofNat n) = true) : ∀ x, p x = true :=
  forall_byte h
end Bits

end Emitter
