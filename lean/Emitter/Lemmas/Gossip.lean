/-
  Proofs for C13, second sentence: the sender with the payload wrapper of the repaired swarm.go (`implUnion`)
  satisfies `SenderUnion` for all call sequences; the unrepaired `State.Merge` (`implDelta`) does not.
-/
import Emitter.Spec.SenderUnion

namespace Emitter.Gossip
open Emitter Emitter.Lww

theorem sjoin_le_iff (vs : List State) (i : SetId) (k : Bytes) (B : Int × Int) :
    tle (sjoin vs i k) B ↔ tle (0, 0) B ∧ ∀ v ∈ vs, tle (tget (v.sel i) k) B := by
  unfold sjoin
  rw [joinT_le_iff]
  simp only [List.mem_map, forall_exists_index, and_imp, forall_apply_eq_imp_iff₂]

theorem sjoin_mono_map {α : Type} (q : List α) (f g : α → State) (i : SetId) (k : Bytes)
    (h : ∀ e ∈ q, tle (tget ((f e).sel i) k) (tget ((g e).sel i) k)) :
    tle (sjoin (q.map f) i k) (sjoin (q.map g) i k) := by
  have hub := (sjoin_le_iff (q.map g) i k _).1 (tle_refl _)
  refine (sjoin_le_iff _ i k _).2 ⟨hub.1, fun v hv => ?_⟩
  obtain ⟨e, he, rfl⟩ := List.mem_map.1 hv
  exact tle_trans (h e he) (hub.2 _ (List.mem_map_of_mem he))

theorem sjoin_append_single (vs : List State) (v : State) (i : SetId) (k : Bytes) :
    sjoin (vs ++ [v]) i k = tmax (sjoin vs i k) (tget (v.sel i) k) :=
  tle_ext fun B => by
    rw [tmax_le_iff, sjoin_le_iff, sjoin_le_iff]
    simp only [List.mem_append, List.mem_singleton, or_imp, forall_and, forall_eq, and_assoc]

theorem sjoin_single {v : State} {i : SetId} (k : Bytes) (hv : NonNeg (v.sel i)) : sjoin [v] i k = tget (v.sel i) k :=
  tle_ext fun B => by
    rw [sjoin_le_iff]
    simp only [List.mem_singleton, forall_eq]
    exact ⟨fun h => h.2, fun h => ⟨tle_trans (hv.zero_le k) h, h⟩⟩

theorem stateOk_curValue (h : Heap) (hh : HeapOk h) (r : Ref) : StateOk (curValue h r) := by
  unfold curValue
  cases hr : h[r]? with
  | none => exact stateOk_empty
  | some O => exact hh O (List.mem_of_getElem? hr)

theorem curValue_of_get (h : Heap) (r : Ref) (O : Obj) (hr : h[r]? = some O) : curValue h r = O.st := by
  unfold curValue; rw [hr]; rfl

theorem curValue_set (h : Heap) (r r' : Ref) (O : Obj) (v : State) (hr : h[r]? = some O) :
    curValue (h.set r { O with st := v }) r' = if r' = r then v else curValue h r' := by
  unfold curValue
  split
  · subst r'
    rw [List.getElem?_set_self (List.getElem?_eq_some_iff.1 hr).1]
    rfl
  · rw [List.getElem?_set_ne (Ne.symm ‹_›)]

theorem heapOk_set (h : Heap) (hh : HeapOk h) (r : Ref) (O : Obj) (hO : StateOk O.st) : HeapOk (h.set r O) := by
  intro o ho
  rcases List.mem_or_eq_of_mem_set ho with h1 | h1
  · exact hh o h1
  · rw [h1]; exact hO

/-- every queue record: the snapshot satisfies the invariants and is below the object's present value -/
def QOk (h : Heap) (q : List (Ref × State)) : Prop :=
  ∀ e ∈ q, StateOk e.2 ∧ ∀ i k, tle (tget (e.2.sel i) k) (tget ((curValue h e.1).sel i) k)

/-- `x` carries every update the records of `q` held when they were queued, and nothing beyond what those objects
hold now. This is, definitionally, the body of `GoodEmission`, so a `Within x q h` closes it. -/
def Within (x : State) (q : List (Ref × State)) (h : Heap) : Prop :=
  ∀ i k, tle (sjoin (q.map (·.2)) i k) (tget (x.sel i) k) ∧
    tle (tget (x.sel i) k) (sjoin (q.map fun e => curValue h e.1) i k)

theorem within_single (h : Heap) (r : Ref) (v0 : State) (hv0 : StateOk v0) (hc : StateOk (curValue h r))
    (hle : ∀ i k, tle (tget (v0.sel i) k) (tget ((curValue h r).sel i) k)) : Within (curValue h r) [(r, v0)] h := by
  intro i k
  simp only [List.map_cons, List.map_nil]
  rw [sjoin_single _ (hv0 i).1, sjoin_single _ (hc i).1]
  exact ⟨hle i k, tle_refl _⟩

theorem within_merge (h : Heap) (a : State) (q : List (Ref × State)) (r : Ref) (O : Obj) (hO : h[r]? = some O)
    (ha : StateOk a) (hOk : StateOk O.st) (hw : Within a q h) : Within (a.merge O.st).1 (q ++ [(r, O.st)]) h := by
  intro i k
  rw [state_merge_sel, tget_merge _ _ (ha i).1 (hOk i).2]
  simp only [List.map_append, List.map_cons, List.map_nil]
  rw [sjoin_append_single, sjoin_append_single, curValue_of_get h r O hO]
  exact ⟨tmax_mono (hw i k).1 (tle_refl _), tmax_mono (hw i k).2 (tle_refl _)⟩

theorem within_grow {x : State} {q : List (Ref × State)} {h h' : Heap}
    (hm : ∀ r i k, tle (tget ((curValue h r).sel i) k) (tget ((curValue h' r).sel i) k)) (hw : Within x q h) :
    Within x q h' :=
  fun i k => ⟨(hw i k).1, tle_trans (hw i k).2 (sjoin_mono_map _ _ _ i k fun e _ => hm e.1 i k)⟩

/-- `none`: nothing was queued since the last pick; `some none`: a nil entry, which the repaired payload never
produces. A `ref` payload is still the one queued object itself, so its reading moves with that object; an `own`
payload is a private union and only has to stay within the bounds. -/
def BucketInv (h : Heap) : Option (Option Pay) → List (Ref × State) → Prop
  | none, q => q = []
  | some none, _ => False
  | some (some (.ref r)), q => r < h.length ∧ ∃ v0, q = [(r, v0)]
  | some (some (.own s)), q => StateOk s ∧ Within s q h

/-- a bucket's content `c` against its queue record `q` -/
structure BucketOk (h : Heap) (c : Option (Option Pay)) (q : List (Ref × State)) : Prop where
  queue : QOk h q
  bucket : BucketInv h c q

structure Inv (w : World Pay) : Prop where
  heap : HeapOk w.heap
  links : ∀ l b, BucketOk w.heap ((w.links l).bk b) ((w.links l).ghost b)

theorem bucketInv_read (h : Heap) (hh : HeapOk h) (d : Pay) (q : List (Ref × State)) (hq : QOk h q)
    (hb : BucketInv h (some (some d)) q) :
    ∃ x, d.read h = some x ∧ StateOk x ∧ Within x q h := by
  cases d with
  | own s => exact ⟨s, rfl, hb.1, hb.2⟩
  | ref r =>
    obtain ⟨hr, v0, rfl⟩ := hb
    obtain ⟨O, hO⟩ : ∃ O, h[r]? = some O := ⟨h[r], List.getElem?_eq_getElem hr⟩
    have h1 := hq (r, v0) List.mem_cons_self
    refine ⟨O.st, by simp [Pay.read, hO], hh O (List.mem_of_getElem? hO), ?_⟩
    rw [← curValue_of_get h r O hO]
    exact within_single h r v0 h1.1 (stateOk_curValue h hh r) h1.2

theorem goodEmission_of_bucketInv (h : Heap) (hh : HeapOk h) (d : Option Pay) (q : List (Ref × State)) (hq : QOk h q)
    (hb : BucketInv h (some d) q) : GoodEmission (d.bind (Pay.read h)) q h := by
  cases d with
  | none => exact hb.elim
  | some p =>
    obtain ⟨x, hx, _, hbd⟩ := bucketInv_read h hh p q hq hb
    exact ⟨x, hx, hbd⟩

theorem bucketOk_grow {h h' : Heap} (hl : h.length = h'.length)
    (hm : ∀ r i k, tle (tget ((curValue h r).sel i) k) (tget ((curValue h' r).sel i) k))
    {c : Option (Option Pay)} {q : List (Ref × State)} (hb : BucketOk h c q) : BucketOk h' c q where
  queue e he := ⟨(hb.queue e he).1, fun i k => tle_trans ((hb.queue e he).2 i k) (hm e.1 i k)⟩
  bucket := by
    match c, hb.bucket with
    | none, hb => exact hb
    | some none, hb => exact hb
    | some (some (.ref r)), hb => exact ⟨hl ▸ hb.1, hb.2⟩
    | some (some (.own s)), hb => exact ⟨hb.1, within_grow hm hb.2⟩

theorem inv_init (h : Heap) (hh : HeapOk h) : Inv { heap := h } where
  heap := hh
  links _ _ := ⟨List.forall_mem_nil _, show BucketInv h none [] from rfl⟩

theorem fupd_same {α β : Type} [DecidableEq α] (f : α → β) (a : α) (v : β) : fupd f a v a = v := by
  unfold fupd; rw [if_pos rfl]

theorem fupd_other {α β : Type} [DecidableEq α] (f : α → β) {a a' : α} (v : β) (h : a' ≠ a) :
    fupd f a v a' = f a' := by
  unfold fupd; rw [if_neg h]

theorem inv_update (w : World Pay) (hw : Inv w) (l : Nat) (b : Bucket) {c : Option (Option Pay)}
    {q : List (Ref × State)} (hq : QOk w.heap q) (hb : BucketInv w.heap c q) :
    Inv { w with links := fupd w.links l { bk := fupd (w.links l).bk b c, ghost := fupd (w.links l).ghost b q } } := by
  refine ⟨hw.heap, fun l' b' => ?_⟩
  by_cases hl : l' = l
  · subst hl
    simp only [fupd_same]
    by_cases hb' : b' = b
    · subst hb'
      simp only [fupd_same]
      exact ⟨hq, hb⟩
    · simp only [fupd_other _ _ hb']
      exact hw.links l' b'
  · simp only [fupd_other _ _ hl]
    exact hw.links l' b'

theorem qok_append (h : Heap) (hh : HeapOk h) {q : List (Ref × State)} (hq : QOk h q) (r : Ref) (O : Obj)
    (hO : h[r]? = some O) : QOk h (q ++ [(r, O.st)]) := by
  intro e he
  rw [List.mem_append, List.mem_singleton] at he
  rcases he with he | he
  · exact hq e he
  · subst he
    refine ⟨hh O (List.mem_of_getElem? hO), fun i k => ?_⟩
    rw [curValue_of_get h r O hO]
    exact tle_refl _

theorem mergeUnion_ok (h : Heap) (p o : Pay) (a b : State) (ha : p.read h = some a) (hb : o.read h = some b) :
    mergeUnion h p o = .ok (h, some (.own (a.merge b).1)) := by
  unfold mergeUnion
  rw [ha, hb]

theorem put_inv (w : World Pay) (hw : Inv w) (l : Nat) (b : Bucket) (r : Ref) :
    Inv (put implUnion w l b r).1 ∧ ∀ e ∈ (put implUnion w l b r).2, GoodEvent e := by
  unfold put
  cases hO : w.heap[r]? with
  | none => exact ⟨hw, List.forall_mem_nil _⟩
  | some O =>
    dsimp only
    have hq := (hw.links l b).queue
    have hq' := qok_append w.heap hw.heap hq r O hO
    match hc : (w.links l).bk b, (hw.links l b).bucket with
    | none, hb =>
      -- empty bucket: `r` itself is stored, and it is the only record
      have hq0 : (w.links l).ghost b = [] := hb
      rw [hq0] at hq' ⊢
      exact ⟨inv_update w hw l b hq' ⟨(List.getElem?_eq_some_iff.1 hO).1, O.st, rfl⟩, List.forall_mem_nil _⟩
    | some none, hb => exact hb.elim
    | some (some p), hb =>
      -- a pending payload, reading as `a`: the bucket now owns `a ⊔ O.st`
      obtain ⟨a, ha, haok, hbd⟩ := bucketInv_read w.heap hw.heap p _ hq hb
      have hm : implUnion.merge w.heap p (implUnion.wrap r) = .ok (w.heap, some (.own (a.merge O.st).1)) :=
        mergeUnion_ok w.heap p (.ref r) a O.st ha (by simp [Pay.read, hO])
      -- the result is `some …`, so the bucket is stored whatever `b` is
      simp only [hm, Option.isNone_some, Bool.and_false, Bool.false_eq_true, if_false]
      have hown : BucketInv w.heap (some (some (.own (a.merge O.st).1))) ((w.links l).ghost b ++ [(r, O.st)]) :=
        ⟨stateOk_merge a O.st haok,
          within_merge w.heap a _ r O hO haok (hw.heap O (List.mem_of_getElem? hO)) hbd⟩
      exact ⟨inv_update w hw l b hq' hown, List.forall_mem_nil _⟩

theorem pick_inv (w : World Pay) (hw : Inv w) (l : Nat) (b : Bucket) :
    Inv (pick implUnion w l b).1 ∧ ∀ e ∈ (pick implUnion w l b).2, GoodEvent e := by
  unfold pick
  dsimp only
  split
  · cases hc : (w.links l).bk b with
    | none => exact ⟨hw, List.forall_mem_nil _⟩
    | some d =>
      have hb := (hw.links l b).bucket
      rw [hc] at hb
      refine ⟨inv_update w hw l b (List.forall_mem_nil _) (show BucketInv w.heap none [] from rfl), ?_⟩
      intro e he
      rw [List.mem_singleton.1 he]
      exact goodEmission_of_bucketInv w.heap hw.heap d _ (hw.links l b).queue hb
  · exact ⟨hw, List.forall_mem_nil _⟩

theorem grow_inv (w : World Pay) (hw : Inv w) (r : Ref) (v : State) (hc : CallOk w.heap (.grow r v)) :
    Inv (grow w r v) := by
  unfold grow
  cases hO : w.heap[r]? with
  | none => exact hw
  | some O =>
    have hmono : ∀ r' i k, tle (tget ((curValue w.heap r').sel i) k)
        (tget ((curValue (w.heap.set r { O with st := v }) r').sel i) k) := by
      intro r' i k
      rw [curValue_set w.heap r r' O v hO]
      split
      · subst r'; exact hc.2 i k
      · exact tle_refl _
    exact ⟨heapOk_set w.heap hw.heap r _ hc.1,
      fun l b => bucketOk_grow List.length_set.symm hmono (hw.links l b)⟩

theorem step_inv (w : World Pay) (hw : Inv w) (c : Call) (hc : CallOk w.heap c) :
    Inv (step implUnion w c).1 ∧ ∀ e ∈ (step implUnion w c).2, GoodEvent e := by
  cases c with
  | put l b r => exact put_inv w hw l b r
  | pick l b => exact pick_inv w hw l b
  | grow r v => exact ⟨grow_inv w hw r v hc, List.forall_mem_nil _⟩

theorem run_inv (cs : List Call) (w : World Pay) (hw : Inv w) (hc : CallsOk implUnion w cs) :
    Inv (run implUnion w cs).1 ∧ ∀ e ∈ (run implUnion w cs).2, GoodEvent e := by
  induction cs generalizing w with
  | nil => exact ⟨hw, List.forall_mem_nil _⟩
  | cons c cs ih =>
    have h1 := step_inv w hw c hc.1
    have h2 := ih _ h1.1 hc.2
    refine ⟨h2.1, fun e he => ?_⟩
    -- the events of `c :: cs` are those of `c` followed by those of `cs`
    rcases List.mem_append.1 he with he | he
    · exact h1.2 e he
    · exact h2.2 e he

theorem pending_of_inv {w : World Pay} (hw : Inv w) : GoodPending implUnion w := by
  intro l b hne
  match hc : (w.links l).bk b, (hw.links l b).bucket with
  | none, hb => exact absurd hb hne
  | some none, hb => exact hb.elim
  | some (some p), hb =>
    exact ⟨p, rfl, goodEmission_of_bucketInv w.heap hw.heap (some p) _ (hw.links l b).queue hb⟩

/-- the sender writes the heap only through the payload's `Merge` -/
theorem put_heap {D : Type} {I : Impl D} (hI : ∀ h p o h' res, I.merge h p o = .ok (h', res) → h' = h)
    (w : World D) (l : Nat) (b : Bucket) (r : Ref) : (put I w l b r).1.heap = w.heap := by
  unfold put
  cases w.heap[r]? with
  | none => rfl
  | some O =>
    dsimp only
    match (w.links l).bk b with
    | none => rfl
    | some none => rfl
    | some (some p) =>
      dsimp only
      -- the only write: the heap the payload's `Merge` returns
      cases hm : I.merge w.heap p (I.wrap r) with
      | ok x => exact hI _ _ _ _ _ hm
      | panic => rfl
      | hang => rfl

theorem pick_heap {D : Type} (I : Impl D) (w : World D) (l : Nat) (b : Bucket) : (pick I w l b).1.heap = w.heap := by
  unfold pick
  dsimp only
  split
  · split <;> rfl
  · rfl

theorem mergeUnion_heap (h : Heap) (p o : Pay) (h' : Heap) (res : Option Pay) (hm : mergeUnion h p o = .ok (h', res)) :
    h' = h := by
  unfold mergeUnion at hm
  split at hm
  · cases hm; rfl
  · cases hm

/-! ### the unrepaired tree: literal witnesses -/

def k1 : Bytes := [0x6b, 0x31]

def k2 : Bytes := [0x6b, 0x32]

/-- two one-operation payloads, as two `Notify` calls produce them -/
def opA : Obj := { st := { ban := [(k1, ⟨5, 0, []⟩)] } }

def opB : Obj := { st := { ban := [(k2, ⟨5, 0, []⟩)] } }

/-- the live state of a broker: durable -/
def liveA : Obj := { st := { ban := [(k1, ⟨5, 0, []⟩)] }, durable := true }

/-- two different operations broadcast over one link before it sends: only the second one is sent -/
def lostUpdate : List Call := [.put 0 (some 1) 0, .put 0 (some 1) 1, .pick 0 (some 1)]

theorem lostUpdate_emits :
    (run implDelta { heap := [opA, opB] } lostUpdate).2 =
      [.emitted 0 (some 1) (some opB.st) [(0, opA.st), (1, opB.st)]
        [{ st := { ban := [(k2, ⟨5, 0, []⟩), (k1, ⟨5, 0, []⟩)] } }, opB]] := by
  rfl

theorem stateOk_ban_single (k : Bytes) {v : Val} (h1 : 0 ≤ v.add) (h2 : 0 ≤ v.del) : StateOk { ban := [(k, v)] } := by
  intro i
  cases i
  · exact ⟨nonneg_nil, nodup_nil⟩
  · exact ⟨nonneg_singleton k h1 h2, nodup_singleton k v⟩
  · exact ⟨nonneg_nil, nodup_nil⟩

theorem heapOk_AB : HeapOk [opA, opB] :=
  List.forall_mem_cons.2 ⟨stateOk_ban_single _ (by decide) (by decide),
    List.forall_mem_singleton.2 (stateOk_ban_single _ (by decide) (by decide))⟩

theorem heapOk_liveB : HeapOk [liveA, opB] :=
  List.forall_mem_cons.2 ⟨stateOk_ban_single _ (by decide) (by decide),
    List.forall_mem_singleton.2 (stateOk_ban_single _ (by decide) (by decide))⟩

/-- the same update queued twice (two objects): `Merge` returns nil, the bucket becomes empty, nothing is pending -/
def duplicate : List Call := [.put 0 none 0, .put 0 none 1]

/-- a nil interface left in `broadcasts[src]` by a nil `Merge` result: the next `Broadcast` for that source panics,
and `pick` hands nil to the deliver loop -/
theorem nil_entry_panics :
    (run implDelta { heap := [opA, opA, opB] } [.put 0 (some 1) 0, .put 0 (some 1) 1, .put 0 (some 1) 2]).2 = [.panicked 0 (some 1)] ∧
    (run implDelta { heap := [opA, opA] } [.put 0 (some 1) 0, .put 0 (some 1) 1, .pick 0 (some 1)]).2 =
      [.emitted 0 (some 1) none [(0, opA.st), (1, opA.st)] [opA, { st := {} }]] := ⟨rfl, rfl⟩

/-- `lostUpdate` on the repaired payload type: both updates are sent -/
example : ∃ x, (run implUnion { heap := [opA, opB] } lostUpdate).2 = [.emitted 0 (some 1) (some x) [(0, opA.st), (1, opB.st)] [opA, opB]] ∧
    tget x.ban k1 = (5, 0) ∧ tget x.ban k2 = (5, 0) := ⟨_, rfl, by decide, by decide⟩

end Emitter.Gossip
