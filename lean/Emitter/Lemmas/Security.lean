/-
  Lemmas for C03 over Model/Security.lean: `authorize` as a conjunction, `SetTarget` /
  `ValidateChannel` against the level-list specification of Spec/Covers.lean (bit path, depth,
  masking, the one hash comparison), and the byte-level effect of `Key.setAt`.
-/
import Emitter.Model.Security
import Emitter.Spec.Covers
namespace Emitter.Security
open Emitter Emitter.Spec

theorem authorize_iff (e : Env) (ch : Channel) (perm : UInt8) (k : Key) :
    authorize e ch perm = some k ↔
      ch.ctype ≠ chInvalid ∧ e.banned.contains ch.key = false ∧ e.decrypt ch.key = some k ∧
      k.isExpired e.now = false ∧ e.contractOk k = true ∧ k.hasPermission perm = true ∧
      k.validateChannel ch = true := by
  unfold authorize
  cases hd : e.decrypt ch.key with
  | none => simp
  | some k' =>
    simp only [Option.ite_none_left_eq_some, Option.some.injEq, Bool.or_eq_true, Bool.not_eq_true', not_or,
      Bool.not_eq_false, beq_iff_eq, ne_eq, Bool.not_eq_true]
    -- every guard has contributed its negation; what is left is bracketing, and `k' = k` moving to the front
    constructor
    · rintro ⟨h1, h2, h3, ⟨⟨h4, h5⟩, h6⟩, rfl⟩; exact ⟨h1, h2, rfl, h3, h4, h5, h6⟩
    · rintro ⟨h1, h2, rfl, h3, h4, h5, h6⟩; exact ⟨h1, h2, h3, ⟨⟨h4, h5⟩, h6⟩, rfl⟩

theorem contract_isolation (e : Env) (ch : Channel) (perm : UInt8) (k : Key)
    (hd : e.decrypt ch.key = some k)
    (hm : k.contract ≠ e.contractId ∨ k.signature ≠ e.signature ∨ k.master ≠ e.masterId) :
    authorize e ch perm = none := by
  -- a key that came back would be `k` and would pass the contract check
  refine Option.eq_none_iff_forall_ne_some.2 fun k' h => ?_
  obtain ⟨_, _, hd', _, hc, _⟩ := (authorize_iff e ch perm k').1 h
  rw [hd] at hd'; cases hd'
  simp only [Env.contractOk, Bool.and_eq_true, beq_iff_eq] at hc
  rcases hm with hm | hm | hm
  · exact hm hc.1.1
  · exact hm hc.2
  · exact hm hc.1.2

theorem banned_refused (e : Env) (ch : Channel) (perm : UInt8) (h : e.banned.contains ch.key = true) :
    authorize e ch perm = none := by
  refine Option.eq_none_iff_forall_ne_some.2 fun k' h' => ?_
  rw [((authorize_iff e ch perm k').1 h').2.1] at h
  cases h

theorem hasPermission_iff (k : Key) (flag : UInt8) :
    k.hasPermission flag = true ↔ k.permissions &&& flag = flag := by
  unfold Key.hasPermission
  simp

/-- well-formed level names: non-empty, no '/' inside -/
def levelWf (p : Bytes) : Prop := p ≠ [] ∧ sep ∉ p

/-- the bit path `SetTarget` computes for levels `tp` (exact unless `tw`) -/
def pathOf (tp : List Bytes) (tw : Bool) : Nat := (if tw then 0 else 2 ^ 23) + bitPathOf tp 0

/-- the request channel string of levels `rp` (with a trailing "#" level when `rw`) -/
def chanOf (rp : List Bytes) (rw : Bool) : Bytes := joinSlash (rp ++ (if rw then [hashSym] else [])) ++ [sep]

/-- level-list form of `Spec.covers` (`covers_chanOf`) -/
def coversParts (tp : List Bytes) (tw : Bool) (rp : List Bytes) (rw : Bool) : Bool :=
  if tw then rp.length ≥ tp.length && levelsOk tp rp
  else !rw && rp.length == tp.length && levelsOk tp rp

theorem splitSlashAux_append {p : Bytes} (rest acc : Bytes) (hp : sep ∉ p) :
    splitSlashAux (p ++ rest) acc = splitSlashAux rest (acc ++ p) := by
  induction p generalizing acc with
  | nil => simp
  | cons c p ih =>
    have hc : (c == sep) = false := by
      simp only [beq_eq_false_iff_ne, ne_eq]; intro h; exact hp (by simp [h])
    have hp' : sep ∉ p := fun h => hp (List.mem_cons_of_mem _ h)
    simp only [List.cons_append, splitSlashAux, hc, Bool.false_eq_true, ↓reduceIte]
    rw [ih _ hp']; simp

theorem splitSlashAux_joinSlash (p : Bytes) (ps : List Bytes) (acc : Bytes) (hwf : ∀ q ∈ p :: ps, sep ∉ q) :
    splitSlashAux (joinSlash (p :: ps)) acc = (acc ++ p) :: ps := by
  induction ps generalizing p acc with
  | nil =>
    have := splitSlashAux_append [] acc (hwf p (by simp))
    simp only [List.append_nil] at this
    simp [joinSlash, this, splitSlashAux]
  | cons q ps ih =>
    simp only [joinSlash, List.append_assoc]
    rw [splitSlashAux_append _ _ (hwf p (by simp))]
    simp only [List.singleton_append, splitSlashAux, beq_self_eq_true, if_true]
    rw [ih q [] (fun r hr => hwf r (List.mem_cons_of_mem _ hr))]
    simp

theorem splitSlash_joinSlash (ps : List Bytes) (hne : ps ≠ []) (hwf : ∀ p ∈ ps, sep ∉ p) :
    splitSlash (joinSlash ps) = ps := by
  cases ps with
  | nil => exact absurd rfl hne
  | cons p ps => unfold splitSlash; rw [splitSlashAux_joinSlash p ps [] hwf]; simp

theorem joinSlash_injective (a b : List Bytes) (ha : ∀ p ∈ a, sep ∉ p) (hb : ∀ p ∈ b, sep ∉ p)
    (hna : a ≠ []) (hnb : b ≠ []) (h : joinSlash a = joinSlash b) : a = b := by
  rw [← splitSlash_joinSlash a hna ha, ← splitSlash_joinSlash b hnb hb, h]

theorem joinSlash_getLast (ps : List Bytes) (hne : ps ≠ []) (hwf : ∀ p ∈ ps, p ≠ [] ∧ sep ∉ p) :
    ∃ l c, joinSlash ps = l ++ [c] ∧ c ≠ sep := by
  induction ps with
  | nil => exact absurd rfl hne
  | cons p ps ih =>
    cases ps with
    | nil =>
      obtain ⟨hp1, hp2⟩ := hwf p (by simp)
      refine ⟨p.dropLast, p.getLast hp1, ?_, ?_⟩
      · simp [joinSlash, List.dropLast_concat_getLast]
      · intro h; exact hp2 (h ▸ List.getLast_mem hp1)
    | cons q ps =>
      obtain ⟨l, c, hl, hc⟩ := ih (by simp) (fun r hr => hwf r (List.mem_cons_of_mem _ hr))
      refine ⟨p ++ [sep] ++ l, c, ?_, hc⟩
      simp only [joinSlash] at hl ⊢
      rw [hl]; simp

theorem trimRightSlash_join (ps : List Bytes) (hne : ps ≠ []) (hwf : ∀ p ∈ ps, p ≠ [] ∧ sep ∉ p) :
    trimRightSlash (joinSlash ps ++ [sep]) = joinSlash ps := by
  obtain ⟨l, c, hl, hc⟩ := joinSlash_getLast ps hne hwf
  have hc' : (c == sep) = false := by simpa using hc
  rw [hl]; unfold trimRightSlash
  simp [List.dropWhile, hc']

/-- a level is a literal: neither "+" nor "#" -/
def lit (p : Bytes) : Bool := p != plus && p != hashSym

theorem lit_plus : lit plus = false := by decide

theorem lit_iff (t : Bytes) : lit t = true ↔ t ≠ plus ∧ t ≠ hashSym := by simp [lit]

/-- the code's test "level `idx` of the target is a literal" -/
def litAt (P idx : Nat) : Bool := decide (idx ≤ 22) && bitSet P (22 - idx)

theorem bitSet_eq_testBit (x i : Nat) : bitSet x i = x.testBit i := by
  rw [bitSet, Nat.testBit_eq_decide_div_mod_eq, Bool.beq_eq_decide_eq]

/-- levels `s, s+1, …` of a target occupy bits `22 - s, 21 - s, …` of the path: bit `22 - j` says
whether level `j` is a literal -/
theorem bitPathOf_spec (ps : List Bytes) (s : Nat) (h : s + ps.length ≤ 23) :
    bitPathOf ps s < 2 ^ (23 - s) ∧
    ∀ j, s ≤ j → j ≤ 22 → (bitPathOf ps s).testBit (22 - j) = lit (ps.getD (j - s) plus) := by
  induction ps generalizing s with
  | nil => exact ⟨Nat.two_pow_pos _, fun j _ _ => by simp [bitPathOf, lit_plus]⟩
  | cons p ps ih =>
    simp only [List.length_cons] at h
    obtain ⟨hlt, hbits⟩ := ih (s + 1) (by omega)
    rw [show 23 - (s + 1) = 22 - s by omega] at hlt
    -- the head contributes `2 ^ (22 - s)` times its literal flag, the tail stays below that
    have e : bitPathOf (p :: ps) s = 2 ^ (22 - s) * (lit p).toNat + bitPathOf ps (s + 1) := by
      have hs : s ≤ 22 := by omega
      simp only [bitPathOf, lit, hs, decide_true, Bool.and_true]
      cases (p != plus && p != hashSym) <;> simp
    rw [e]
    refine ⟨?_, fun j hj1 hj2 => ?_⟩
    · rw [show 23 - s = (22 - s) + 1 by omega, Nat.pow_succ]
      have := Bool.toNat_le (lit p)
      have := Nat.mul_le_mul_left (2 ^ (22 - s)) this
      omega
    · rw [Nat.testBit_two_pow_mul_add _ hlt, Nat.testBit_bool_toNat]
      split
      · rw [hbits j (by omega) hj2, show j - s = (j - (s + 1)) + 1 by omega, List.getD_cons_succ]
      · have : j = s := by omega
        subst this; simp

theorem pathOf_bit23 (tp : List Bytes) (tw : Bool) (hlen : tp.length ≤ 23) :
    bitSet (pathOf tp tw) 23 = !tw := by
  obtain ⟨hlt, -⟩ := bitPathOf_spec tp 0 (by omega)
  rw [bitSet_eq_testBit]; unfold pathOf
  cases tw
  · simp only [Bool.false_eq_true, if_false, Bool.not_false]
    rw [Nat.testBit_two_pow_add_eq, Nat.testBit_lt_two_pow hlt]; rfl
  · simp only [if_true, Nat.zero_add, Bool.not_true]
    exact Nat.testBit_lt_two_pow hlt

theorem pathOf_litAt (tp : List Bytes) (tw : Bool) (hlen : tp.length ≤ 23) (idx : Nat) :
    litAt (pathOf tp tw) idx = lit (tp.getD idx plus) := by
  obtain ⟨hlt, hbits⟩ := bitPathOf_spec tp 0 (by omega)
  unfold litAt
  by_cases h : idx ≤ 22
  · have := hbits idx (by omega) h
    rw [bitSet_eq_testBit]; unfold pathOf
    simp only [h, decide_true, Bool.true_and]
    cases tw
    · simp only [Bool.false_eq_true, if_false]
      rw [Nat.testBit_two_pow_add_gt (by omega)]; exact this
    · simpa using this
  · have : tp.getD idx plus = plus := by
      rw [List.getD_eq_getElem?_getD, List.getElem?_eq_none (by omega)]; rfl
    simp only [h, decide_false, Bool.false_and]
    rw [this, lit_plus]

/-- `maxDepthOf` finds the last literal level: `L` is its depth (0 if there is none) -/
theorem maxDepthOf_spec {P L n : Nat} (hL : L ≤ n) (hn : n ≤ 23)
    (hb : L = 0 ∨ litAt P (L - 1) = true) (hz : ∀ j, L ≤ j → j < n → litAt P j = false) :
    maxDepthOf P n = L := by
  induction n with
  | zero => exact (Nat.le_zero.1 hL).symm
  | succ n ih =>
    unfold maxDepthOf
    dsimp only
    rw [show bitSet P (22 - n) = litAt P n by simp [litAt, show n ≤ 22 by omega]]
    by_cases hL : L = n + 1
    · subst hL
      have := hb.resolve_left (by omega)
      rw [Nat.add_sub_cancel] at this
      rw [this, if_pos rfl]; omega
    · rw [hz n (by omega) (by omega), if_neg (by simp)]
      exact ih (by omega) (by omega) (fun j hj1 hj2 => hz j hj1 (by omega))

theorem maskParts_cons (P : Nat) (r : Bytes) (rs : List Bytes) (idx : Nat) :
    maskParts P (r :: rs) idx =
      if litAt P idx then (if r == plus then none else (maskParts P rs (idx + 1)).map (r :: ·))
      else (maskParts P rs (idx + 1)).map (plus :: ·) := rfl

theorem maskParts_some {P : Nat} {rp : List Bytes} {idx : Nat} {m : List Bytes} (h : maskParts P rp idx = some m) :
    m.length = rp.length ∧ ∀ p ∈ m, p = plus ∨ p ∈ rp := by
  induction rp generalizing idx m with
  | nil => cases h; exact ⟨rfl, by simp⟩
  | cons r rs ih =>
    rw [maskParts_cons] at h
    -- in every branch that succeeds, `m` is a head (`r` or "+") on a masked tail
    have key : ∀ x, (x = plus ∨ x = r) → (maskParts P rs (idx + 1)).map (x :: ·) = some m →
        m.length = (r :: rs).length ∧ ∀ p ∈ m, p = plus ∨ p ∈ r :: rs := by
      intro x hx hm
      obtain ⟨m', hm', rfl⟩ := Option.map_eq_some_iff.1 hm
      obtain ⟨hl, hmem⟩ := ih hm'
      refine ⟨by simp [hl], fun p hp => ?_⟩
      rcases List.mem_cons.1 hp with rfl | hp
      · exact hx.imp id (fun h => by simp [h])
      · exact (hmem p hp).imp id (List.mem_cons_of_mem _)
    split at h
    · split at h
      · cases h
      · exact key r (Or.inr rfl) h
    · exact key plus (Or.inl rfl) h

/-- a head `x` on a masked tail agrees with `t :: ts` on its depth iff `x = t` and the tail agrees -/
theorem any_map_cons (o : Option (List Bytes)) (x t : Bytes) (ts : List Bytes) :
    (o.map (x :: ·)).any (fun m => decide (m.take (ts.length + 1) = t :: ts)) =
      (decide (x = t) && o.any (fun m => decide (m.take ts.length = ts))) := by
  cases o <;> simp

theorem mask_allplus {P : Nat} (rp : List Bytes) : ∀ idx, (∀ j, litAt P (idx + j) = false) →
    maskParts P rp idx = some (List.replicate rp.length plus) := by
  induction rp with
  | nil => intro _ _; rfl
  | cons r rs ih =>
    intro idx h
    rw [maskParts_cons]
    have h0 : litAt P idx = false := by simpa using h 0
    rw [h0, ih (idx + 1) (fun j => by rw [← h (j + 1)]; congr 1; omega)]
    simp [List.replicate_succ]

/-! one level: a "+" of the target accepts anything; a literal accepts exactly itself -/

theorem levelOk_plus (r : Bytes) : levelOk plus r = true := rfl

theorem levelOk_lit {t : Bytes} (ht : t ≠ plus) (r : Bytes) : levelOk t r = decide (r = t) := by
  by_cases h : r = t
  · subst h; simp [levelOk, ht]
  · simp [levelOk, ht, h, Ne.symm h]

/-- masking against the target's literal positions, cut to the target's depth, gives back the
target exactly when the levels match (a "+" of the request on a literal position makes it fail) -/
theorem mask_spec (P : Nat) (rp ts : List Bytes) (idx : Nat) (hlit : ∀ j, litAt P (idx + j) = lit (ts.getD j plus))
    (hnh : hashSym ∉ ts) :
    (maskParts P rp idx).any (fun m => decide (m.take ts.length = ts)) = levelsOk ts rp := by
  induction ts generalizing rp idx with
  | nil =>
    -- no literal position is left: every level is masked with "+", and masking cannot fail
    rw [mask_allplus rp idx (fun j => by simpa [lit_plus] using hlit j)]
    rfl
  | cons t ts' ih =>
    cases rp with
    | nil =>
      -- nothing is masked, and `[]` cut to any depth is not `t :: ts'`
      rfl
    | cons r rs =>
      have hlit' (j : Nat) : litAt P (idx + 1 + j) = lit (ts'.getD j plus) := by
        rw [← List.getD_cons_succ, ← hlit (j + 1)]; congr 1; omega
      have h0 : litAt P idx = lit t := by simpa using hlit 0
      have := ih rs (idx + 1) hlit' (fun h => hnh (List.mem_cons_of_mem _ h))
      rw [maskParts_cons, h0, levelsOk, ← this]
      cases hlt : lit t with
      | true =>
        -- a literal `t`: a "+" of the request fails, any other level is kept and must equal `t`
        have htp : t ≠ plus := ((lit_iff t).1 hlt).1
        rw [levelOk_lit htp]
        by_cases hr : r = plus
        · -- masking fails (`none`), and `plus = t` is false
          subst hr
          simp only [beq_self_eq_true, if_true, Option.any_none, decide_eq_false htp.symm, Bool.false_and]
        · simp only [hr, beq_iff_eq, if_true, if_false, List.length_cons, any_map_cons]
      | false =>
        -- `t` is "+": the level is masked with "+", which is what `t` is
        have htp : t = plus := by
          simpa [lit, show t ≠ hashSym from fun h => hnh (by simp [h])] using hlt
        simp only [Bool.false_eq_true, if_false, List.length_cons, any_map_cons, htp, levelOk_plus, decide_true]

theorem levelsOk_length {ts rs : List Bytes} (h : levelsOk ts rs = true) : ts.length ≤ rs.length := by
  induction ts generalizing rs with
  | nil => simp
  | cons t ts ih =>
    cases rs with
    | nil => simp [levelsOk] at h
    | cons r rs =>
      simp only [levelsOk, Bool.and_eq_true] at h
      simpa using ih h.2

/-- the levels of `chanOf ps w` as `ValidateChannel` and `SetTarget` both recover them: cut the
final '/', split, detect a trailing "#" level and drop it -/
structure ChanLevels (ps : List Bytes) (w : Bool) : Prop where
  trim : trimRightSlash (chanOf ps w) = (chanOf ps w).dropLast
  split : splitSlash (chanOf ps w).dropLast = ps ++ (if w then [hashSym] else [])
  last : ((ps ++ (if w then [hashSym] else [])).getLast? == some hashSym) = w
  drop : (if w = true then (ps ++ (if w then [hashSym] else [])).dropLast else ps ++ (if w then [hashSym] else [])) = ps

theorem chanOf_levels (ps : List Bytes) (w : Bool) (hwf : ∀ p ∈ ps, levelWf p) (hne : ps ≠ [] ∨ w = true)
    (hlast : w = false → ps.getLast? ≠ some hashSym) : ChanLevels ps w := by
  have hwf0 : ∀ p ∈ ps ++ (if w then [hashSym] else []), p ≠ [] ∧ sep ∉ p := by
    intro p hp
    rcases List.mem_append.1 hp with hp | hp
    · exact hwf p hp
    · cases w
      · simp at hp
      · simp only [if_true, List.mem_singleton] at hp; subst hp; decide
  have hne0 : ps ++ (if w then [hashSym] else []) ≠ [] := by rcases hne with h | h <;> simp [h]
  -- without its final '/', the string is the levels joined
  have hC : (chanOf ps w).dropLast = joinSlash (ps ++ (if w then [hashSym] else [])) := by simp [chanOf]
  refine ⟨?_, ?_, ?_, ?_⟩
  · rw [hC]
    exact trimRightSlash_join _ hne0 hwf0
  · rw [hC]
    exact splitSlash_joinSlash _ hne0 (fun p hp => (hwf0 p hp).2)
  · cases w
    · simpa using hlast rfl
    · simp
  · cases w <;> simp

theorem levelsOf_chanOf (ps : List Bytes) (w : Bool) (hwf : ∀ p ∈ ps, levelWf p) (hne : ps ≠ [] ∨ w = true)
    (hlast : w = false → ps.getLast? ≠ some hashSym) : levelsOf (chanOf ps w) = (ps, w) := by
  have L := chanOf_levels ps w hwf hne hlast
  simp only [levelsOf, L.trim, L.split, L.last]
  cases w <;> simp

/-- `coversParts` is `Spec.covers` on channel strings given by their levels; the two hypotheses are
instances of `levelsOf_chanOf` -/
theorem covers_chanOf (tp : List Bytes) (tw : Bool) (rp : List Bytes) (rw : Bool)
    (ht : levelsOf (chanOf tp tw) = (tp, tw)) (hr : levelsOf (chanOf rp rw) = (rp, rw)) :
    covers (chanOf tp tw) (chanOf rp rw) = coversParts tp tw rp rw := by
  simp only [covers, ht, hr, coversParts]

/-- what `validateChannel` computes on a well-formed request channel, with the string
handling (trim, split, trailing "#") done -/
theorem validate_chanOf (k : Key) (rp : List Bytes) (rw : Bool) (ch : Channel)
    (hch : ch.channel = chanOf rp rw) (hrw : ∀ p ∈ rp, levelWf p) (hrne : rp ≠ [])
    (hrh : rw = false → rp.getLast? ≠ some hashSym) (hP : k.targetPath ≠ 0) :
    k.validateChannel ch =
      let md := maxDepthOf k.targetPath 23
      let d := if md == 0 then rp.length else md
      (if rp.length < d || (bitSet k.targetPath 23 && (rw || rp.length != d)) then false else
       match maskParts k.targetPath rp 0 with
       | none => false
       | some masked => Hash.hashOf (joinSlash (masked.take d)) == k.target) := by
  have L := chanOf_levels rp rw hrw (Or.inl hrne) hrh
  have hA : (chanOf rp rw).isEmpty = false := by simp [chanOf]
  have hB : (chanOf rp rw).getLast? = some sep := by simp [chanOf]
  have hP' : (k.targetPath == 0) = false := by simpa using hP
  unfold Key.validateChannel
  simp only [hch, hA, hB, L.split, L.last, L.drop, hP', beq_self_eq_true, if_true, Bool.false_eq_true, if_false]
  rfl

/-- comparing the hashes of two joined level lists decides their equality, if this one pair does not collide -/
theorem hash_join_beq (a b : List Bytes) (ha : ∀ p ∈ a, sep ∉ p) (hb : ∀ p ∈ b, sep ∉ p) (hna : a ≠ []) (hnb : b ≠ [])
    (hcol : Hash.hashOf (joinSlash a) = Hash.hashOf (joinSlash b) → joinSlash a = joinSlash b) :
    (Hash.hashOf (joinSlash a) == Hash.hashOf (joinSlash b)) = decide (a = b) := by
  by_cases h : a = b
  · simp [h]
  · simp only [h, decide_false, beq_eq_false_iff_ne, ne_eq]
    exact fun hh => h (joinSlash_injective a b ha hb hna hnb (hcol hh))

/-- a target whose last level is a literal has that level's bit set, and `maxDepthOf` finds its depth -/
theorem maxDepth_pathOf_lastLit (tp : List Bytes) (tw : Bool) (hlen : tp.length ≤ 23) (hnh : hashSym ∉ tp)
    (htne : tp ≠ []) (hlast : tp.getLast? ≠ some plus) :
    litAt (pathOf tp tw) (tp.length - 1) = true ∧ maxDepthOf (pathOf tp tw) 23 = tp.length := by
  have hL1 : 1 ≤ tp.length := List.length_pos_iff.2 htne
  have hl : tp.getLast? = some (tp.getD (tp.length - 1) plus) := by
    rw [List.getLast?_eq_getElem?, List.getD_eq_getElem?_getD, List.getElem?_eq_getElem (by omega)]; rfl
  have hlit : litAt (pathOf tp tw) (tp.length - 1) = true := by
    rw [pathOf_litAt tp tw hlen, lit_iff]
    exact ⟨fun h => hlast (by rw [hl, h]), fun h => hnh (h ▸ List.mem_of_getLast? hl)⟩
  refine ⟨hlit, maxDepthOf_spec hlen (Nat.le_refl _) (Or.inr hlit) (fun j hj _ => ?_)⟩
  rw [pathOf_litAt tp tw hlen, List.getD_eq_getElem?_getD, List.getElem?_eq_none hj]; exact lit_plus

/-- a target of "+" levels only has no literal bit, and `maxDepthOf` answers 0 whatever its depth. The code cannot
tell how deep a target that ends in "+" is; this is why `validate_covers_gen` restricts such targets (`hsup`) -/
theorem maxDepth_pathOf_allPlus (tp : List Bytes) (tw : Bool) (hlen : tp.length ≤ 23) (hall : ∀ p ∈ tp, p = plus) :
    (∀ j, litAt (pathOf tp tw) j = false) ∧ maxDepthOf (pathOf tp tw) 23 = 0 := by
  have hlitF (j : Nat) : litAt (pathOf tp tw) j = false := by
    rw [pathOf_litAt tp tw hlen, List.eq_replicate_of_mem hall, List.getD_eq_getElem?_getD, List.getElem?_replicate]
    split <;> exact lit_plus
  exact ⟨hlitF, maxDepthOf_spec (Nat.zero_le _) (Nat.le_refl _) (Or.inl rfl) (fun j _ _ => hlitF j)⟩

/-- `ValidateChannel` decides `coversParts`. The non-collision hypotheses speak only of the one
pair of strings the code hashes and compares (the masked request cut to the target's depth
against the target); what `hrh` and `hcolp` exclude is said at `C03.validate_covers`. -/
theorem validate_covers_gen (k : Key) (tp : List Bytes) (tw : Bool) (rp : List Bytes) (rw : Bool) (ch : Channel)
    (hpath : k.targetPath = pathOf tp tw) (hhash : k.target = Hash.hashOf (joinSlash tp))
    (hch : ch.channel = chanOf rp rw)
    (htw : ∀ p ∈ tp, levelWf p) (hrw : ∀ p ∈ rp, levelWf p) (hrne : rp ≠ [])
    (hlen : tp.length ≤ 23) (hnh : hashSym ∉ tp)
    (hsup : tp ≠ [] ∧ (tp.getLast? ≠ some plus ∨ (tw = false ∧ ∀ p ∈ tp, p = plus)))
    (hcol : ∀ m : List Bytes, maskParts (pathOf tp tw) rp 0 = some m →
              (∀ p ∈ m.take tp.length, sep ∉ p) → (m.take tp.length).length = tp.length →
              Hash.hashOf (joinSlash (m.take tp.length)) = Hash.hashOf (joinSlash tp) →
              joinSlash (m.take tp.length) = joinSlash tp)
    (hrh : rw = false → rp.getLast? ≠ some hashSym)
    (hcolp : (tw = false ∧ ∀ p ∈ tp, p = plus) →
              Hash.hashOf (joinSlash (List.replicate rp.length plus)) = Hash.hashOf (joinSlash tp) →
              rp.length = tp.length) :
    k.validateChannel ch = coversParts tp tw rp rw := by
  obtain ⟨htne, hsup⟩ := hsup
  have hL1 : 1 ≤ tp.length := List.length_pos_iff.2 htne
  have hb23 := pathOf_bit23 tp tw hlen
  have hms := mask_spec (pathOf tp tw) rp tp 0 (fun j => by rw [Nat.zero_add]; exact pathOf_litAt tp tw hlen j) hnh
  rcases hsup with hlast | ⟨htwf, hall⟩
  · -- the last level of the target is a literal: the code finds the target's depth
    obtain ⟨hlastlit, hmd⟩ := maxDepth_pathOf_lastLit tp tw hlen hnh htne hlast
    have hP : k.targetPath ≠ 0 := fun h0 => by simp [← hpath, h0, litAt, bitSet] at hlastlit
    rw [validate_chanOf k rp rw ch hch hrw hrne hrh hP, hpath, hmd, hb23, hhash]
    simp only [if_neg (by simp; omega : ¬ (tp.length == 0) = true)]
    unfold coversParts
    by_cases hge : tp.length ≤ rp.length
    · cases hm : maskParts (pathOf tp tw) rp 0 with
      | none =>
        rw [hm, Option.any_none] at hms
        cases tw <;> cases rw <;> simp [← hms]
      | some m =>
        rw [hm, Option.any_some] at hms
        obtain ⟨hml, hmem⟩ := maskParts_some hm
        have hsepm : ∀ p ∈ m.take tp.length, sep ∉ p := fun p hp =>
          (hmem p (List.mem_of_mem_take hp)).elim (fun h => h ▸ by decide) (fun h => (hrw p h).2)
        have hlenm : (m.take tp.length).length = tp.length := by rw [List.length_take]; omega
        have hx := hash_join_beq (m.take tp.length) tp hsepm (fun p hp => (htw p hp).2)
          (fun h => by rw [h] at hlenm; simp at hlenm; omega) htne (hcol m hm hsepm hlenm)
        simp only [hx, hms]
        -- both sides are now Boolean combinations of the same depth tests and `levelsOk tp rp`
        cases tw <;> cases rw <;> simp [hge, Nat.not_lt.2 hge, ← Bool.beq_eq_decide_eq]
    · have hlo : levelsOk tp rp = false := Bool.eq_false_iff.2 fun h => hge (levelsOk_length h)
      have : rp.length < tp.length := by omega
      cases tw <;> simp [this, hlo] <;> omega
  · -- an exact target of "+" levels only: no literal bit, the code takes the request's own depth
    -- and leaves the depth check to the hash of "+/…/+"
    subst htwf
    have htp : tp = List.replicate tp.length plus := List.eq_replicate_of_mem hall
    obtain ⟨hlitF, hmd⟩ := maxDepth_pathOf_allPlus tp false hlen hall
    have hP : k.targetPath ≠ 0 := fun h0 => by rw [← hpath, h0] at hb23; cases hb23
    rw [validate_chanOf k rp rw ch hch hrw hrne hrh hP, hpath, hmd, hb23, hhash,
      mask_allplus rp 0 (fun j => hlitF _)]
    simp only [beq_self_eq_true, if_true]
    unfold coversParts
    cases rw
    · by_cases heq : rp.length = tp.length
      · have hlo : levelsOk tp rp = true := by
          rw [← hms, mask_allplus rp 0 (fun j => hlitF _), Option.any_some, heq, List.take_replicate,
            Nat.min_self, ← htp, decide_eq_true rfl]
        rw [heq, ← htp]; simp [hlo]
      · have h1 : (Hash.hashOf (joinSlash (List.replicate rp.length plus)) == Hash.hashOf (joinSlash tp)) = false :=
          beq_eq_false_iff_ne.2 fun h => heq (hcolp ⟨rfl, hall⟩ h)
        simp [h1, heq]
    · simp

theorem setAt_length (k : Key) (i : Nat) (v : Bytes) (h : i + v.length ≤ k.length) :
    (k.setAt i v).length = k.length := by
  unfold Key.setAt
  simp only [List.length_append, List.length_take, List.length_drop]
  omega

theorem setAt_b_out (k : Key) (i : Nat) (v : Bytes) (j : Nat) (h : i + v.length ≤ k.length)
    (hj : j < i ∨ i + v.length ≤ j) : (k.setAt i v).b j = k.b j := by
  unfold Key.b Key.setAt
  simp only [List.getD_eq_getElem?_getD]
  congr 1
  have hl : (k.take i ++ v).length = i + v.length := by
    simp only [List.length_append, List.length_take]; omega
  rcases hj with hj | hj
  · rw [List.getElem?_append_left (by rw [hl]; omega), List.getElem?_append_left (by simp; omega),
      List.getElem?_take_of_lt hj]
  · rw [List.getElem?_append_right (by rw [hl]; omega), hl, List.getElem?_drop]
    congr 1; omega

theorem setAt_b_in (k : Key) (i : Nat) (v : Bytes) (j : Nat) (h : i ≤ k.length)
    (hj1 : i ≤ j) (hj2 : j < i + v.length) : (k.setAt i v).b j = v.getD (j - i) 0 := by
  unfold Key.b Key.setAt
  simp only [List.getD_eq_getElem?_getD]
  have hl : (k.take i).length = i := by simp only [List.length_take]; omega
  rw [List.append_assoc, List.getElem?_append_right (by rw [hl]; omega), hl,
    List.getElem?_append_left (by omega)]

theorem setAt_b (k : Key) (i : Nat) (v : Bytes) (j : Nat) (h : i + v.length ≤ k.length) :
    (k.setAt i v).b j = if i ≤ j ∧ j < i + v.length then v.getD (j - i) 0 else k.b j := by
  split
  next hc => exact setAt_b_in k i v j (by omega) hc.1 hc.2
  next hc => exact setAt_b_out k i v j h (by omega)

theorem len24_setAt {k : Key} (i : Nat) (v : Bytes) (hk : k.length = 24) (h : i + v.length ≤ 24) :
    (k.setAt i v).length = 24 := by
  rw [setAt_length k i v (by omega), hk]

theorem setAt2_b (k : Key) (hk : k.length = 24) (v3 v4 : Bytes) (h3 : v3.length = 3) (h4 : v4.length = 4) (j : Nat) :
    ((k.setAt 12 v3).setAt 16 v4).b j =
      if 12 ≤ j ∧ j < 15 then v3.getD (j - 12) 0 else if 16 ≤ j ∧ j < 20 then v4.getD (j - 16) 0 else k.b j := by
  have hl := len24_setAt 12 v3 hk (by omega)
  rw [setAt_b _ 16 v4 j (by omega), setAt_b k 12 v3 j (by omega), h3, h4]
  by_cases c1 : 16 ≤ j ∧ j < 16 + 4
  · rw [if_pos c1, if_neg (by omega), if_pos (by omega)]
  · rw [if_neg c1]
    by_cases c2 : 12 ≤ j ∧ j < 12 + 3
    · rw [if_pos c2, if_pos (by omega)]
    · rw [if_neg c2, if_neg (by omega), if_neg (by omega)]

/-- `SetTarget` in terms of the levels of the channel string: the bit path and the hash of the
joined levels go into bytes 12..14 and 16..19 -/
theorem setTarget_eq (k : Key) (ch : Bytes) :
    k.setTarget ch =
      if ch.getLast? != some sep then .err "target-invalid" else
      if (levelsOf ch).1.length > 23 then .err "target-too-long" else
      .ok ((k.setAt 12 [UInt8.ofNat (pathOf (levelsOf ch).1 (levelsOf ch).2 / 65536),
          UInt8.ofNat (pathOf (levelsOf ch).1 (levelsOf ch).2 / 256),
          UInt8.ofNat (pathOf (levelsOf ch).1 (levelsOf ch).2)]).setAt 16
        (putBe32 (Hash.hashOf (joinSlash (levelsOf ch).1)))) := by
  unfold Key.setTarget levelsOf pathOf
  by_cases h : ((splitSlash (trimRightSlash ch)).getLast? == some hashSym) = true <;> simp [h]

theorem setTarget_chanOf (k : Key) (tp : List Bytes) (tw : Bool)
    (hwf : ∀ p ∈ tp, levelWf p) (hne : tp ≠ [] ∨ tw = true) (hlen : tp.length ≤ 23) (hnh : hashSym ∉ tp) :
    k.setTarget (chanOf tp tw) =
      .ok ((k.setAt 12 [UInt8.ofNat (pathOf tp tw / 65536), UInt8.ofNat (pathOf tp tw / 256),
        UInt8.ofNat (pathOf tp tw)]).setAt 16 (putBe32 (Hash.hashOf (joinSlash tp)))) := by
  have hB : ((chanOf tp tw).getLast? != some sep) = false := by simp [chanOf]
  rw [setTarget_eq, levelsOf_chanOf tp tw hwf hne (fun _ h => hnh (List.mem_of_getLast? h)), hB,
    if_neg (by simp), if_neg (by simpa using hlen)]

theorem pathOf_lt (tp : List Bytes) (tw : Bool) (hlen : tp.length ≤ 23) : pathOf tp tw < 16777216 := by
  obtain ⟨hlt, -⟩ := bitPathOf_spec tp 0 (by omega)
  unfold pathOf
  split <;> omega

/-- `SetTarget` writes the bit path and the hash of the joined levels (and nothing else) -/
theorem setTarget_fields (k : Key) (hk : k.length = 24) (tp : List Bytes) (tw : Bool)
    (hwf : ∀ p ∈ tp, levelWf p) (hne : tp ≠ [] ∨ tw = true) (hlen : tp.length ≤ 23) (hnh : hashSym ∉ tp) :
    ∃ k', k.setTarget (chanOf tp tw) = .ok k' ∧ k'.targetPath = pathOf tp tw ∧
      k'.target = Hash.hashOf (joinSlash tp) ∧ k'.length = 24 ∧
      (∀ i, i < 12 ∨ i = 15 ∨ 20 ≤ i → k'.b i = k.b i) := by
  have hP := pathOf_lt tp tw hlen
  have hb := setAt2_b k hk [UInt8.ofNat (pathOf tp tw / 65536), UInt8.ofNat (pathOf tp tw / 256), UInt8.ofNat (pathOf tp tw)]
    (putBe32 (Hash.hashOf (joinSlash tp))) rfl rfl
  refine ⟨_, setTarget_chanOf k tp tw hwf hne hlen hnh, ?_, ?_, ?_, ?_⟩
  · -- bytes 12..14 are the three base-256 digits of the path, which is below 2^24 (`hP`)
    simp only [Key.targetPath, hb, Nat.le_refl, Nat.reduceLeDiff, Nat.reduceLT, and_self, if_true, Nat.reduceSub,
      List.getD_cons_zero, List.getD_cons_succ]
    exact be24_digits _ hP
  · simp only [Key.target, hb, Nat.reduceLeDiff, Nat.reduceLT, and_false, and_self, if_false, if_true, Nat.le_refl, Nat.reduceSub]
    exact be32_putBe32 _
  · exact len24_setAt 16 _ (len24_setAt 12 _ hk (by simp)) (by simp [putBe32_length])
  · intro i hi
    rw [hb, if_neg (by omega), if_neg (by omega)]

/-- `validate_covers_gen` with the non-collision hypothesis for every string of the target's depth;
stated and explained as `C03.validate_covers` -/
theorem validate_covers (k : Key) (tp : List Bytes) (tw : Bool) (rp : List Bytes) (rw : Bool) (ch : Channel)
    (hpath : k.targetPath = pathOf tp tw) (hhash : k.target = Hash.hashOf (joinSlash tp))
    (hch : ch.channel = chanOf rp rw)
    (htw : ∀ p ∈ tp, levelWf p) (hrw : ∀ p ∈ rp, levelWf p) (hrne : rp ≠ [])
    (hlen : tp.length ≤ 23) (hnh : hashSym ∉ tp)
    (hsup : tp ≠ [] ∧ (tp.getLast? ≠ some plus ∨ (tw = false ∧ ∀ p ∈ tp, p = plus)))
    (hcol : ∀ m : List Bytes, (∀ p ∈ m, sep ∉ p) → m.length = tp.length →
              Hash.hashOf (joinSlash m) = Hash.hashOf (joinSlash tp) → joinSlash m = joinSlash tp)
    (hrh : rp.getLast? ≠ some hashSym)
    (hcolp : (tw = false ∧ ∀ p ∈ tp, p = plus) →
              Hash.hashOf (joinSlash (List.replicate rp.length plus)) = Hash.hashOf (joinSlash tp) →
              rp.length = tp.length) :
    k.validateChannel ch = coversParts tp tw rp rw :=
  validate_covers_gen k tp tw rp rw ch hpath hhash hch htw hrw hrne hlen hnh hsup
    (fun _ _ h1 h2 hh => hcol _ h1 h2 hh) (fun _ => hrh) hcolp

end Emitter.Security
