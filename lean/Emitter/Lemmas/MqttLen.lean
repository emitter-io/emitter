/-
  The Remaining Length field (MQTT 3.1.1, 2.2.3): the digit loop of `encodeLength` / `writeHeader` (`encLenF`), the
  standard's table (`encRemainingLength`), the standard's reader (`remainingLength`) and the loop of `decodeHeader`
  (`decodeLen`). Two facts carry everything: the reader reads back the digits the loop writes
  (`remainingLength_encLenF`), and the Go loop agrees with the reader wherever the reader succeeds
  (`decodeLen_of_remainingLength`).
-/
import Emitter.Model.Mqtt
import Emitter.Spec.Mqtt
namespace Emitter.Mqtt
open Emitter
open Emitter.Spec.Mqtt (remainingLength encRemainingLength)

theorem and7f (b : UInt8) : (b &&& 0x7f).toUInt32 = UInt32.ofNat (b.toNat % 128) := by
  apply UInt32.toNat.inj
  rw [UInt8.toNat_toUInt32, UInt8.toNat_and, UInt32.toNat_ofNat', show (0x7f : UInt8).toNat = 2 ^ 7 - 1 from rfl,
    Nat.and_two_pow_sub_one_eq_mod]
  omega

theorem and80 (b : UInt8) : ((b &&& 0x80) != 0) = decide (128 ≤ b.toNat) := by
  revert b
  apply Bits.forall_byte
  decide +kernel

theorem decodeLen_cons (b : UInt8) (rest : Bytes) (mult len : UInt32) :
    decodeLen (b :: rest) mult len =
      if 128 ≤ b.toNat then decodeLen rest (mult * 128) (len + UInt32.ofNat (b.toNat % 128) * mult)
      else .ok (len + UInt32.ofNat (b.toNat % 128) * mult, rest) := by
  simp only [decodeLen, and7f, and80, decide_eq_true_eq]

theorem decodeLen_suffix (bs : Bytes) (m l len : UInt32) (r : Bytes)
    (h : decodeLen bs m l = .ok (len, r)) : ∃ pre, bs = pre ++ r ∧ 0 < pre.length := by
  fun_induction decodeLen bs m l with
  | case1 => cases h
  | case2 b _ _ _ _ _ ih =>
    obtain ⟨pre, hp, _⟩ := ih h
    exact ⟨b :: pre, by rw [hp]; rfl, Nat.succ_pos _⟩
  | case3 b rest =>
    have hr : rest = r := (Prod.mk.inj (Outcome.ok.inj h)).2
    exact ⟨[b], by rw [hr]; rfl, Nat.one_pos⟩

/-- the length loop of `decodeHeader` computes the same value as the standard's reader on every length
field the standard accepts (minimal or not), for any bound on its bytes and any multiplier / accumulator -/
theorem decodeLen_of_remainingLength : ∀ (k : Nat) (r r' : Bytes) (n : Nat) (mult len : UInt32),
    remainingLength k r = some (n, r') → decodeLen r mult len = .ok (len + UInt32.ofNat n * mult, r')
  | 0, _, _, _, _, _, h => by simp [remainingLength] at h
  | _ + 1, [], _, _, _, _, h => by simp [remainingLength] at h
  | k + 1, b :: r, r', n, mult, len, h => by
    have hb := b.toNat_lt
    rw [decodeLen_cons]
    simp only [remainingLength] at h
    split at h
    · cases h
      rw [if_neg (by omega), Nat.mod_eq_of_lt (by omega)]
    · split at h
      · next v r'' hr =>
        cases h
        rw [if_pos (by omega), decodeLen_of_remainingLength k r _ v _ _ hr]
        -- len + (b % 128) * mult + v * (mult * 128) = len + (b % 128 + 128 * v) * mult in the ring `UInt32`
        have e : b.toNat - 128 + 128 * v = b.toNat % 128 + 128 * v := by omega
        rw [e, UInt32.ofNat_add, UInt32.ofNat_mul, UInt32.add_mul, UInt32.add_assoc,
          UInt32.mul_comm mult, ← UInt32.mul_assoc, UInt32.mul_comm (UInt32.ofNat v)]
        rfl  -- `128` is `UInt32.ofNat 128`
      · cases h

/-- `k + 1` digits are enough for `n`, the reader may read that many, and the writer's fuel `f` is larger (the Go loop
has fuel 5; the standard's reader reads 4) -/
theorem remainingLength_encLenF (r : Bytes) : ∀ (k f n : Nat), n < 128 ^ (k + 1) → k < f →
    remainingLength (k + 1) (encLenF f n ++ r) = some (n, r)
  | _, 0, _, _, hf => by omega
  | k, f + 1, n, hn, hf => by
    by_cases h : n < 128
    · have : (UInt8.ofNat n).toNat = n := by rw [UInt8.toNat_ofNat']; omega
      simp [encLenF, h, remainingLength, this]
    · have e : (UInt8.ofNat (n % 128 + 128)).toNat = n % 128 + 128 := by rw [UInt8.toNat_ofNat']; omega
      match k, hn, hf with
      | 0, hn, _ => omega
      | k + 1, hn, hf =>
        have := remainingLength_encLenF r k f (n / 128) (Nat.div_lt_of_lt_mul (by rw [← Nat.pow_succ']; exact hn))
          (by omega)
        simp only [encLenF, h, if_false, List.cons_append, remainingLength, e, this]
        rw [if_neg (by omega), Nat.add_sub_cancel, Nat.mod_add_div]

/-- round trip for everything five digits can hold; beyond 2^32 the value is read modulo 2^32 -/
theorem decodeLen_encLen_of_lt (n : Nat) (h : n < 128 ^ 5) (rest : Bytes) :
    decodeLen (encLen n ++ rest) 1 0 = .ok (UInt32.ofNat n, rest) := by
  simpa [encLen] using decodeLen_of_remainingLength 5 _ _ _ 1 0 (remainingLength_encLenF rest 4 5 n h (by omega))

/-- Table 2.4 of the standard is the digit loop of `encodeLength`, unrolled: the bound of row `i` is
`n / 128 ^ i < 128`, its entries are the successive quotients. -/
theorem encRemainingLength_eq (n : Nat) (h : n < 268435456) : encRemainingLength n = some (encLen n) := by
  unfold encRemainingLength encLen
  -- the table's bounds `n ≤ 127`, … become `n < 128`, …; its bytes `128 + x` become the loop's `x + 128`
  simp only [← Nat.lt_succ_iff, Nat.succ_eq_add_one, Nat.reduceAdd, Nat.add_comm 128]
  -- the loop's quotients `n / 128 / 128` become the table's `n / 16384`, its tests `n / 16384 < 128` become `n < 2097152`
  simp only [encLenF, Nat.div_div_eq_div_mul, Nat.reduceMul, Nat.div_lt_iff_lt_mul (Nat.zero_lt_succ _), h, if_true]
  by_cases h1 : n < 128
  · simp only [h1, if_true]
  by_cases h2 : n < 16384
  · simp only [h1, h2, if_true, if_false]
  by_cases h3 : n < 2097152 <;> simp only [h1, h2, h3, if_true, if_false]

theorem encRemainingLength_none (n : Nat) (h : 268435456 ≤ n) : encRemainingLength n = none := by
  have g : ∀ k, k ≤ 268435455 → ¬ n ≤ k := fun k hk => by omega
  simp [encRemainingLength, g]

theorem encRemainingLength_some {n : Nat} {l : Bytes} (h : encRemainingLength n = some l) :
    n < 268435456 ∧ l = encLen n := by
  by_cases hn : n < 268435456
  · rw [encRemainingLength_eq n hn] at h
    exact ⟨hn, by simpa using h.symm⟩
  · rw [encRemainingLength_none n (by omega)] at h
    cases h

theorem remainingLength_enc {n : Nat} {l : Bytes} (r : Bytes) (h : encRemainingLength n = some l) :
    remainingLength 4 (l ++ r) = some (n, r) := by
  obtain ⟨hn, rfl⟩ := encRemainingLength_some h
  exact remainingLength_encLenF r 3 5 n (by omega) (by omega)

end Emitter.Mqtt
