/-
  Lemmas about the channel parser (Model/Security.lean: parseKey, parseChanLoop, parseOptions,
  parseChannel): every round of the option loop consumes input, so the fuel of the model never
  runs out, what the parser builds is bounded by the text it was given, and the key of a parsed
  channel is the text before its first '/'.
-/
import Emitter.Model.Security
namespace Emitter.Security
open Emitter

theorem scanKey_some_lt (text acc k rest : Bytes) (h : scanKey text acc = some (some k, rest)) :
    rest.length < text.length := by
  -- the '=' that ends the key is consumed, and every step before it consumes a byte
  fun_induction scanKey text acc <;> simp_all <;> omega

theorem scanKey_none_rest : ∀ (text acc : Bytes) (rest : Bytes),
    scanKey text acc = some (none, rest) → rest = [] := by
  intro text acc rest h
  fun_induction scanKey text acc <;> simp_all

theorem scanVal_le (text acc v rest : Bytes) (h : scanVal text acc = some (v, rest)) :
    rest.length ≤ text.length := by
  fun_induction scanVal text acc <;> simp_all <;> omega

theorem parseOptions_length {fuel : Nat} {text : Bytes} {os : List (Bytes × Bytes)}
    (h : parseOptions fuel text = some os) : os.length ≤ text.length := by
  fun_induction parseOptions fuel text generalizing os with
  | case7 fuel text hne rest v rest' hv k' hkv hk ih =>
      -- a round that yields an option `(k', v)` and goes on with `rest'`
      obtain ⟨os', hos', rfl⟩ := Option.map_eq_some_iff.1 h
      have := scanKey_some_lt text [] k' rest hk
      have := scanVal_le rest [] v rest' hv
      have := ih hos'
      simp; omega
  | _ => simp_all   -- out of fuel, end of text, or a malformed round: `none` or `[]`

/-- Termination argument of the Go loop, made explicit: every round consumes at least one byte,
so with fuel above the length of the text the `none` of fuel exhaustion is never the answer and
the result does not depend on the fuel. -/
theorem parseOptions_indep (f1 f2 : Nat) (text : Bytes) (h1 : text.length < f1) (h2 : text.length < f2) :
    parseOptions f1 text = parseOptions f2 text := by
  fun_induction parseOptions f1 text generalizing f2 with
  | case1 => omega                                             -- no fuel
  | case2 => cases f2 <;> simp [parseOptions] at h2 ⊢          -- end of text
  | case7 fuel text hne rest v rest' hv k' hkv hk ih =>
      -- a round that yields an option and goes on with the shorter `rest'`: both sides recurse
      have := scanKey_some_lt text [] k' rest hk
      have := scanVal_le rest [] v rest' hv
      obtain _ | f2 := f2
      · omega
      · rw [parseOptions, hk]
        · rw [ih f2 (by omega) (by omega)]; simp [hv, hkv]
        · exact hne
  | _ =>
      -- a malformed round: both sides stop with `none` at the same test
      obtain _ | f2 := f2
      · omega
      · rw [parseOptions] <;> simp_all

theorem parseOptions_fuel (fuel : Nat) (text : Bytes) (h : text.length < fuel) :
    parseOptions fuel text = parseOptions (text.length + 1) text :=
  parseOptions_indep fuel _ text h (Nat.lt_succ_self _)

/-- the number of levels never exceeds what was already collected plus the unread text:
a level is closed only by a '/' -/
theorem parseChanLoop_query (text : Bytes) (st : PC) (q : List UInt32) (clen ty used : Nat)
    (h : parseChanLoop text st = some (q, clen, ty, used)) : q.length ≤ st.query.length + text.length := by
  fun_induction parseChanLoop text st with
  | case3 _ _ _ _ q' | case4 _ _ _ _ q' =>
      -- a '/' at the end of the text, or followed by '?': the loop returns with one more level
      simp only [Option.some.injEq, Prod.mk.injEq] at h
      rw [← h.1]
      simp only [q', List.length_append, List.length_cons, List.length_nil]
      omega
  | case5 _ _ _ _ _ _ _ _ ih | case7 _ _ _ _ _ _ ih | case9 _ _ _ _ _ _ _ ih =>
      -- the three recursive calls ('/', a wildcard, a channel character): one byte less of text, at
      -- most one level more collected
      have := ih h
      simp +zetaDelta only [List.length_append, List.length_cons, List.length_nil] at this ⊢
      omega
  | _ => cases h   -- the loop returns `none`

theorem parseKey_some (text k rest : Bytes) (h : parseKey text = some (k, rest)) :
    k = text.takeWhile (· != sep) ∧ rest = text.drop (k.length + 1) := by
  unfold parseKey at h
  dsimp only at h
  split at h
  · simp only [Option.some.injEq, Prod.mk.injEq] at h
    exact ⟨h.1.symm, h.1 ▸ h.2.symm⟩
  · cases h

theorem takeWhile_append_sep (a b : Bytes) :
    (a ++ sep :: b).takeWhile (· != sep) = a.takeWhile (· != sep) := by
  induction a with
  | nil => simp
  | cons c a ih =>
    simp only [List.cons_append, List.takeWhile_cons]
    split
    · rw [ih]
    · rfl

theorem takeWhile_no_sep {a : Bytes} (h : sep ∉ a) : a.takeWhile (· != sep) = a := by
  have := List.takeWhile_append_of_pos (p := (· != sep)) (l₁ := a) (l₂ := []) fun c hc => bne_iff_ne.2 fun e => h (e ▸ hc)
  rwa [List.append_nil, List.takeWhile_nil, List.append_nil] at this

theorem parseChannel_key (text : Bytes) (h : (parseChannel text).ctype ≠ chInvalid) :
    (parseChannel text).key = text.takeWhile (· != sep) := by
  unfold parseChannel at h ⊢
  cases hk : parseKey text with
  | none => rw [hk] at h; exact absurd rfl h
  | some kr =>
    obtain ⟨k, rest⟩ := kr
    have := (parseKey_some text k rest hk).1
    subst this
    dsimp only
    cases parseChanLoop rest {} with
    | none => rfl
    | some r =>
      obtain ⟨q, clen, ty, used⟩ := r
      dsimp only
      split
      · rfl
      · cases parseOptions ((rest.drop used).length + 1) (rest.drop used) <;> rfl

/-- What `ParseChannel` builds is bounded by the topic it was given: at most one option and one
level per input byte (so its allocations are linear in the request). -/
theorem parseChannel_bounded (text : Bytes) :
    (parseChannel text).options.length ≤ text.length ∧ (parseChannel text).query.length ≤ text.length := by
  unfold parseChannel
  split
  · simp                                   -- no key: the empty channel
  next k rest hk =>
    have hr : rest.length ≤ text.length := by rw [(parseKey_some text k rest hk).2, List.length_drop]; omega
    split
    · simp                                 -- an invalid channel: the key alone
    next q clen ty used hq =>
      have hq' : q.length ≤ 0 + rest.length := parseChanLoop_query rest {} q clen ty used hq
      dsimp only
      split
      · simp; omega                        -- no options
      · split
        · simp; omega                      -- malformed options are dropped
        next os hos =>
          have := parseOptions_length hos
          simp at this ⊢
          omega

end Emitter.Security
