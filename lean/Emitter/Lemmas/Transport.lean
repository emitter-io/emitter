/-
  Lemmas for C17: byte-stream preservation of the sniffer / serve loop, the write queue and
  the websocket transport, by state-machine invariants and induction over arbitrary
  read / write sequences. The sniffer and the websocket transport are two instances of one reader
  (`ReadLaws`, `Loop`), which is where "a drain gets everything" is proved.

  The sniffer has three invariants. `WF` (cursors and replay slice in range, a recorded error means the source is
  exhausted) holds after any sequence of `reset` / `Read` (`WF.new`, `WF.step`) and is the `ok` of `Sniffer.laws`:
  in every mode the sniffer is a reader of `left` = what is pending ++ what the socket still holds. `Base T` = `WF`
  and `buf ++ src.stream = T` holds between sniffing phases only: a pass-through read does not keep its bytes in
  `buf`, which is why `str` is no part of `WF` and `left` is what is followed after the hand-over. `reset true` turns
  `Base T` into `SInv T · []` (`Base.start`). `SInv T s out` adds to `Base T s` that `out`, what the phase has
  returned so far, is the replayed part of the buffer ++ what was sniffed beyond the window, hence a prefix of `T`
  (`SInv.prefix`); every `Read` keeps it (`SInv.read`), and `SInv.base` gives `Base` back. Either `reset` makes
  `left` the whole of `buf ++ src.stream` (`Sniffer.left_reset`), so after `doneSniffing` the caller is owed `T`
  (`serve_inv`). `NoTail` is the same walk for the flag (`Loop.each_step`).
-/
import Emitter.Model.Transport

namespace Emitter.Transport
open Emitter

/-! The definitions that theorem statements here and in Props/C17 are written in. -/

/-- inside a sniffing phase that has returned `out` so far -/
structure SInv (T : Bytes) (s : Sniffer) (out : Bytes) : Prop where
  sn : s.sniffing = true
  str : s.buf ++ s.src.stream = T
  le1 : s.bufRead ≤ s.bufSize
  le2 : s.bufSize ≤ s.buf.length
  /-- while replaying nothing has been appended since the reset: the replay window is the whole buffer -/
  full : s.bufRead < s.bufSize → s.bufSize = s.buf.length
  /-- what was replayed so far, then what was sniffed beyond the window -/
  out : out = s.buf.take s.bufRead ++ s.buf.drop s.bufSize
  /-- a recorded source error means the source is exhausted -/
  le : s.lastErr = true → s.src.chunks = []

/-- every error is reported only once everything was delivered -/
def errAtEnd (T : Bytes) : Bytes → List RR → Bool
  | _, [] => true
  | got, r :: rs => (!r.err || got ++ r.data == T) && errAtEnd T (got ++ r.data) rs

inductive SOp where
  | reset (snif : Bool)
  | read (n : Nat)

def Sniffer.step (s : Sniffer) : SOp → Sniffer
  | .reset b => s.reset b
  | .read n => (s.read n).2

/-- after the serve loop handed the connection over: first the reads `after`, then a drain -/
def handover (src : Src) (ms : List (Nat × Matcher)) (after : List Nat) (d : Nat) : List RR × List RR :=
  let s1 := (serve (Sniffer.new src) ms).2.2
  let q := s1.reads after
  (q.1, (q.2.drain d (q.2.todo + 1)).1)

def wsHandover (frames : List Frame) (after : List Nat) (d : Nat) : List RR × List RR :=
  let q := (Ws.mk none frames).reads after
  (q.1, (q.2.drain d (q.2.todo + 1)).1)

theorem Src.read_of_nil (s : Src) (n : Nat) (h : s.chunks = []) : s.read n = ([], true, s) := by
  rw [Src.read, h]

/-- the three ways a read of the source can go -/
theorem Src.read_cases (s : Src) (n : Nat) :
    (s.chunks = [] ∧ s.read n = ([], true, s)) ∨
    (∃ c rest, s.chunks = c :: rest ∧ c.length ≤ n ∧
      s.read n = (c, s.tailErr && rest.isEmpty, { s with chunks := rest })) ∨
    (∃ c rest, s.chunks = c :: rest ∧ n < c.length ∧
      s.read n = (c.take n, false, { s with chunks := c.drop n :: rest })) := by
  cases h : s.chunks with
  | nil => exact .inl ⟨rfl, s.read_of_nil n h⟩
  | cons c rest =>
    by_cases hc : c.length ≤ n
    · exact .inr (.inl ⟨c, rest, rfl, hc, by rw [Src.read, h]; exact if_pos hc⟩)
    · exact .inr (.inr ⟨c, rest, rfl, Nat.lt_of_not_le hc, by rw [Src.read, h]; exact if_neg hc⟩)

theorem Src.read_stream (s : Src) (n : Nat) : (s.read n).1 ++ (s.read n).2.2.stream = s.stream := by
  rcases s.read_cases n with ⟨_, e⟩ | ⟨c, rest, h, _, e⟩ | ⟨c, rest, h, _, e⟩
  · rw [e]; rfl
  · rw [e, Src.stream, Src.stream, h, List.flatten_cons]
  · rw [e, Src.stream, Src.stream, h, List.flatten_cons, List.flatten_cons, ← List.append_assoc,
      List.take_append_drop]

theorem Src.read_len (s : Src) (n : Nat) : (s.read n).1.length ≤ n := by
  rcases s.read_cases n with ⟨_, e⟩ | ⟨c, rest, _, hc, e⟩ | ⟨c, rest, _, _, e⟩
  · rw [e]; exact Nat.zero_le n
  · rw [e]; exact hc
  · rw [e]; exact List.length_take_le n c

theorem Src.read_err (s : Src) (n : Nat) (h : (s.read n).2.1 = true) : (s.read n).2.2.chunks = [] := by
  rcases s.read_cases n with ⟨h0, e⟩ | ⟨c, rest, _, _, e⟩ | ⟨c, rest, _, _, e⟩
  · rw [e]; exact h0
  · rw [e] at h ⊢
    exact List.isEmpty_iff.mp (Bool.and_eq_true_iff.mp h).2
  · rw [e] at h; cases h

theorem Src.read_tailErr (s : Src) (n : Nat) : (s.read n).2.2.tailErr = s.tailErr := by
  rcases s.read_cases n with ⟨_, e⟩ | ⟨c, rest, _, _, e⟩ | ⟨c, rest, _, _, e⟩ <;> rw [e]

/-- a source that never reports the error together with data (`net.Conn`) -/
theorem Src.read_err_nodata (s : Src) (n : Nat) (ht : s.tailErr = false) (h : (s.read n).2.1 = true) :
    (s.read n).1 = [] := by
  rcases s.read_cases n with ⟨_, e⟩ | ⟨c, rest, _, _, e⟩ | ⟨c, rest, _, _, e⟩
  · rw [e]
  · rw [e, ht] at h; cases h
  · rw [e] at h; cases h

theorem Src.read_chunks_nil (s : Src) (n : Nat) (h : s.chunks = []) : (s.read n).2.2.chunks = [] := by
  rw [s.read_of_nil n h]; exact h

/-- progress: a call with a non-empty buffer returns a byte, reports the error, or uses up an
(empty) chunk -/
theorem Src.read_progress (s : Src) (n : Nat) (hn : 0 < n) :
    (s.read n).1 ≠ [] ∨ (s.read n).2.1 = true ∨ (s.read n).2.2.chunks.length < s.chunks.length := by
  rcases s.read_cases n with ⟨_, e⟩ | ⟨c, rest, h, _, e⟩ | ⟨c, rest, h, hc, e⟩
  · rw [e]; exact .inr (.inl rfl)
  · rw [e, h]; exact .inr (.inr (Nat.lt_succ_self _))
  · -- part of a chunk longer than the non-empty buffer: at least one byte
    rw [e]
    refine .inl fun h0 => ?_
    have := congrArg List.length h0
    rw [List.length_take, List.length_nil] at this
    omega

theorem Src.read_size (s : Src) (n : Nat) (hn : 0 < n) (he : (s.read n).2.1 = false) :
    (s.read n).2.2.size < s.size := by
  rcases s.read_cases n with ⟨_, e⟩ | ⟨c, rest, h, _, e⟩ | ⟨c, rest, h, hc, e⟩
  · rw [e] at he; cases he
  · rw [e]
    simp only [Src.size, Src.stream, h, List.flatten_cons, List.length_append, List.length_cons]
    omega
  · rw [e]
    simp only [Src.size, Src.stream, h, List.flatten_cons, List.length_append, List.length_cons, List.length_drop]
    omega

theorem Src.stream_nil {s : Src} (h : s.chunks = []) : s.stream = [] := by
  unfold Src.stream; simp [h]

theorem Sniffer.pending_of_not_lt {s : Sniffer} (h : ¬ s.bufRead < s.bufSize) : s.pending = [] := if_neg h

theorem Sniffer.pending_eq {s : Sniffer} (h : s.bufRead < s.bufSize) :
    s.pending = (s.buf.take s.bufSize).drop s.bufRead := if_pos h

theorem Sniffer.read_replay (s : Sniffer) (n : Nat) (h : s.bufRead < s.bufSize) :
    s.read n = ({ data := s.pending.take n, err := s.lastErr,
                  early := s.lastErr && decide (s.bufRead + (s.pending.take n).length < s.bufSize) },
                { s with bufRead := s.bufRead + (s.pending.take n).length }) := by
  rw [Sniffer.read, if_pos h, Sniffer.pending_eq h]

/-- a sniffing read appends what it got to the buffer (nothing, if it got nothing: `buffer.Write` is skipped) and,
if it got something, overwrites `lastErr` with this call's error status (otherwise `lastErr` stays) -/
theorem Sniffer.read_sniff (s : Sniffer) (n : Nat) (h : ¬ s.bufRead < s.bufSize) (hs : s.sniffing = true) :
    s.read n = ({ data := (s.src.read n).1, err := (s.src.read n).2.1 },
      { s with src := (s.src.read n).2.2, buf := s.buf ++ (s.src.read n).1,
               lastErr := if 0 < (s.src.read n).1.length then (s.src.read n).2.1 else s.lastErr }) := by
  rw [Sniffer.read, if_neg h]
  simp only [hs, if_true, Bool.and_true, decide_eq_true_eq]
  split
  · rfl
  · next hd => rw [List.eq_nil_of_length_eq_zero (Nat.eq_zero_of_not_pos hd), List.append_nil]

theorem Sniffer.read_pass (s : Sniffer) (n : Nat) (h : ¬ s.bufRead < s.bufSize) (hs : s.sniffing = false) :
    s.read n = ({ data := (s.src.read n).1, err := (s.src.read n).2.1 },
      { s with src := (s.src.read n).2.2, buf := [] }) := by
  rw [Sniffer.read, if_neg h]
  simp only [hs, Bool.false_eq_true, if_false, Bool.and_false]

/-- what holds of the sniffer after any sequence of `reset` and `Read`: the read cursor never passes the end, the
slice `buffer[bufferRead:bufferSize]` of the replay branch is in range, … -/
structure WF (s : Sniffer) : Prop where
  cursor : s.bufRead ≤ s.bufSize
  slice : s.bufRead < s.bufSize → s.bufSize ≤ s.buf.length
  /-- … and a recorded source error means the source is exhausted -/
  eof : s.lastErr = true → s.src.chunks = []

theorem WF.pending_length {s : Sniffer} (h : WF s) : s.pending.length = s.bufSize - s.bufRead := by
  by_cases hr : s.bufRead < s.bufSize
  · rw [Sniffer.pending_eq hr, List.length_drop, List.length_take, Nat.min_eq_left (h.slice hr)]
  · rw [Sniffer.pending_of_not_lt hr]; exact (Nat.sub_eq_zero_of_le (Nat.le_of_not_lt hr)).symm

theorem WF.pending_replay {s : Sniffer} (h : WF s) (n : Nat) :
    Sniffer.pending { s with bufRead := s.bufRead + (s.pending.take n).length } = s.pending.drop n := by
  have hl := h.pending_length
  by_cases hn : n < s.pending.length
  · have hr : s.bufRead < s.bufSize := by omega
    have hlt : s.bufRead + n < s.bufSize := by omega
    rw [List.length_take, Nat.min_eq_left (Nat.le_of_lt hn), Sniffer.pending_eq (s := { s with bufRead := _ }) hlt]
    show (s.buf.take s.bufSize).drop (s.bufRead + n) = _
    rw [← List.drop_drop, ← Sniffer.pending_eq hr]
  · rw [List.take_of_length_le (Nat.le_of_not_lt hn), List.drop_of_length_le (Nat.le_of_not_lt hn),
      Sniffer.pending_of_not_lt]
    show ¬ s.bufRead + s.pending.length < s.bufSize
    omega

theorem WF.replay_le {s : Sniffer} (h : WF s) (n : Nat) : s.bufRead + (s.pending.take n).length ≤ s.bufSize := by
  have := h.pending_length
  have : (s.pending.take n).length ≤ s.pending.length := List.length_take_le' ..
  have := h.cursor
  omega

theorem WF.new (src : Src) : WF (Sniffer.new src) := ⟨Nat.le_refl 0, fun h => absurd h (Nat.lt_irrefl 0), nofun⟩

theorem WF.step {s : Sniffer} (h : WF s) (op : SOp) : WF (s.step op) := by
  cases op with
  | reset b => exact ⟨Nat.zero_le _, fun _ => Nat.le_refl _, h.eof⟩
  | read n =>
    rw [Sniffer.step]
    by_cases hr : s.bufRead < s.bufSize
    · rw [Sniffer.read_replay s n hr]
      exact ⟨h.replay_le n, fun _ => h.slice hr, h.eof⟩
    · -- nothing to replay before, nothing after: the cursors do not move; the source stays exhausted if it was, and a
      -- sniffing read that got data records the source's own error (`Src.read_err`)
      have he : s.lastErr = true → (s.src.read n).2.2.chunks = [] := fun hl => Src.read_chunks_nil s.src n (h.eof hl)
      cases hs : s.sniffing with
      | true =>
        rw [Sniffer.read_sniff s n hr hs]
        refine ⟨h.cursor, fun hh => absurd hh hr, fun hl => ?_⟩
        split at hl
        · exact Src.read_err s.src n hl
        · exact he hl
      | false => rw [Sniffer.read_pass s n hr hs]; exact ⟨h.cursor, fun hh => absurd hh hr, he⟩

/-- outside a replay the call is the source's, and nothing is pending afterwards either — whether or not the
bytes are also kept in the buffer -/
theorem Sniffer.read_source (s : Sniffer) (n : Nat) (h : ¬ s.bufRead < s.bufSize) :
    (s.read n).1 = { data := (s.src.read n).1, err := (s.src.read n).2.1 } ∧
    (s.read n).2.src = (s.src.read n).2.2 ∧ (s.read n).2.pending = [] := by
  cases hs : s.sniffing with
  | true => rw [Sniffer.read_sniff s n h hs]; exact ⟨rfl, rfl, Sniffer.pending_of_not_lt h⟩
  | false => rw [Sniffer.read_pass s n h hs]; exact ⟨rfl, rfl, Sniffer.pending_of_not_lt h⟩

/-- what holds of the sniffer between phases, for the client stream `T` -/
structure Base (T : Bytes) (s : Sniffer) : Prop where
  wf : WF s
  str : s.buf ++ s.src.stream = T

theorem Base.new (src : Src) : Base src.stream (Sniffer.new src) := ⟨WF.new src, rfl⟩

theorem SInv.base {T s out} (h : SInv T s out) : Base T s := ⟨⟨h.le1, fun _ => h.le2, h.le⟩, h.str⟩

theorem Base.start {T s} (h : Base T s) : SInv T (s.reset true) [] :=
  ⟨rfl, h.str, Nat.zero_le _, Nat.le_refl _, fun _ => rfl, by simp [Sniffer.reset], h.wf.eof⟩

/-- what the caller has still to get: the sniffed bytes to be replayed, then the rest of the socket -/
def Sniffer.left (s : Sniffer) : Bytes := s.pending ++ s.src.stream

/-- whichever way the sniffer is reset, everything it holds is to be delivered (again) -/
theorem Sniffer.left_reset (s : Sniffer) (b : Bool) : (s.reset b).left = s.buf ++ s.src.stream := by
  show Sniffer.pending (s.reset b) ++ s.src.stream = _
  by_cases hb : 0 < s.buf.length
  · rw [Sniffer.pending_eq (s := s.reset b) hb]
    show (s.buf.take s.buf.length).drop 0 ++ _ = _
    rw [List.take_length, List.drop_zero]
  · rw [Sniffer.pending_of_not_lt (s := s.reset b) hb, List.eq_nil_of_length_eq_zero (Nat.eq_zero_of_not_pos hb)]

theorem SInv.prefix {T s out} (h : SInv T s out) : out <+: T := by
  rw [h.out, ← h.str]
  by_cases hr : s.bufRead < s.bufSize
  · have := h.full hr
    rw [this, List.drop_length, List.append_nil]
    exact List.IsPrefix.trans (List.take_prefix _ _) (List.prefix_append _ _)
  · have : s.bufRead = s.bufSize := by have := h.le1; omega
    rw [this, List.take_append_drop]
    exact List.prefix_append _ _

theorem SInv.read {T s out} (h : SInv T s out) (n : Nat) :
    SInv T (s.read n).2 (out ++ (s.read n).1.data) := by
  -- the cursor and the error flag are `WF`'s
  have hw : WF (s.read n).2 := h.base.wf.step (.read n)
  by_cases hr : s.bufRead < s.bufSize
  · -- replay: the buffer is complete (`full`), so `pending = buf.drop bufRead`; only the cursor moves
    have hz := h.full hr
    have hp : s.pending = s.buf.drop s.bufRead := by rw [Sniffer.pending_eq hr, hz, List.take_length]
    rw [Sniffer.read_replay s n hr] at hw ⊢
    refine { h with le1 := hw.cursor, full := fun _ => hz, out := ?_ }
    show out ++ s.pending.take n = s.buf.take (s.bufRead + (s.pending.take n).length) ++ _
    rw [h.out, hz, List.drop_length, List.append_nil, List.append_nil, List.take_add, hp, List.length_take,
      ← List.take_eq_take_min]
  · -- nothing to replay (`bufRead = bufSize`): the source is read, and what it returns is appended to the buffer
    -- beyond the window, so it shows up at the end of both `out` and `buf.drop bufSize`
    rw [Sniffer.read_sniff s n hr h.sn] at hw ⊢
    refine { h with str := ?_, le2 := ?_, full := fun hh => absurd hh hr, out := ?_, le := hw.eof }
    · show (s.buf ++ _) ++ _ = T
      rw [List.append_assoc, Src.read_stream s.src n]; exact h.str
    · show s.bufSize ≤ (s.buf ++ _).length
      rw [List.length_append]; have := h.le2; omega
    · show out ++ _ = (s.buf ++ _).take s.bufRead ++ (s.buf ++ _).drop s.bufSize
      rw [h.out, List.take_append_of_le_length (Nat.le_trans h.le1 h.le2), List.drop_append_of_le_length h.le2,
        List.append_assoc]

@[simp] theorem cat_nil : cat [] = [] := rfl
@[simp] theorem cat_cons (r : RR) (rs : List RR) : cat (r :: rs) = r.data ++ cat rs := by simp [cat]
@[simp] theorem cat_append (a b : List RR) : cat (a ++ b) = cat a ++ cat b := by simp [cat]

/-- a source that never reports the error together with data never sets `lastErr`, so the
flagged branch is never taken -/
structure NoTail (s : Sniffer) : Prop where
  src : s.src.tailErr = false
  noErr : s.lastErr = false

theorem NoTail.reset {s} (h : NoTail s) (b : Bool) : NoTail (s.reset b) := ⟨h.src, h.noErr⟩

theorem NoTail.read {s} (h : NoTail s) (n : Nat) : NoTail (s.read n).2 ∧ (s.read n).1.early = false := by
  by_cases hr : s.bufRead < s.bufSize
  · rw [Sniffer.read_replay s n hr]
    refine ⟨⟨h.src, h.noErr⟩, ?_⟩
    show (s.lastErr && _) = false
    rw [h.noErr]; rfl
  · have ht := Src.read_tailErr s.src n
    cases hs : s.sniffing with
    | false => rw [Sniffer.read_pass s n hr hs]; exact ⟨⟨ht.trans h.src, h.noErr⟩, rfl⟩
    | true =>
      rw [Sniffer.read_sniff s n hr hs]
      refine ⟨⟨ht.trans h.src, ?_⟩, rfl⟩
      show (if _ then _ else _) = false
      split
      · next hd =>
        cases he : (s.src.read n).2.1 with
        | false => rfl
        | true => rw [Src.read_err_nodata s.src n h.src he] at hd; cases hd
      · exact h.noErr

theorem errAtEnd_append (T : Bytes) : ∀ (a b : List RR) (got : Bytes),
    errAtEnd T got (a ++ b) = (errAtEnd T got a && errAtEnd T (got ++ cat a) b)
  | [], b, got => by simp [errAtEnd]
  | r :: a, b, got => by
      simp only [List.cons_append, errAtEnd, cat_cons, errAtEnd_append T a b, Bool.and_assoc, List.append_assoc]

theorem errAtEnd_snoc (T : Bytes) (acc : List RR) (r : RR) :
    errAtEnd T [] (acc ++ [r]) = (errAtEnd T [] acc && (!r.err || cat acc ++ r.data == T)) := by
  rw [errAtEnd_append, errAtEnd, errAtEnd, Bool.and_true, List.nil_append]

/-- The one-read contract of a byte-stream reader, for the states `ok`: a read hands out the next bytes of
what is `left` to deliver; an error reported without the flag `early` means that nothing is left; a read into
a non-empty buffer that reports no error lowers `todo`, so that a drain ends. -/
def ReadLaws {σ : Type} (read : σ → Nat → RR × σ) (ok : σ → Prop) (left : σ → Bytes) (todo : σ → Nat) :
    Prop :=
  ∀ s n, ok s → ok (read s n).2 ∧ (read s n).1.data ++ left (read s n).2 = left s ∧
    ((read s n).1.err = true → (read s n).1.early = false → left (read s n).2 = []) ∧
    (0 < n → (read s n).1.err = false → todo (read s n).2 < todo s)

namespace ReadLaws
variable {σ : Type} {read : σ → Nat → RR × σ} {ok : σ → Prop} {left : σ → Bytes} {todo : σ → Nat}
  (L : ReadLaws read ok left todo) {s : σ} (h : ok s) (n : Nat)
include L h

theorem ok_read : ok (read s n).2 := (L s n h).1
theorem left_read : (read s n).1.data ++ left (read s n).2 = left s := (L s n h).2.1
theorem err_read (he : (read s n).1.err = true) (hq : (read s n).1.early = false) : left (read s n).2 = [] :=
  (L s n h).2.2.1 he hq
theorem todo_read (hn : 0 < n) (he : (read s n).1.err = false) : todo (read s n).2 < todo s :=
  (L s n h).2.2.2 hn he

end ReadLaws

/-- `read` and the two loops the model builds on it, once per adapter: `reads` (given buffer sizes) and
`drain` (one buffer size, until an error is reported) -/
structure Loop (σ : Type) where
  read : σ → Nat → RR × σ
  reads : σ → List Nat → List RR × σ
  drain : σ → Nat → Nat → List RR × σ
  reads_nil : ∀ s, reads s [] = ([], s)
  reads_cons : ∀ s n ns,
    reads s (n :: ns) = ((read s n).1 :: (reads (read s n).2 ns).1, (reads (read s n).2 ns).2)
  drain_zero : ∀ s d, drain s d 0 = ([], s)
  drain_succ : ∀ s d fuel, drain s d (fuel + 1) =
    if (read s d).1.err then ([(read s d).1], (read s d).2)
    else ((read s d).1 :: (drain (read s d).2 d fuel).1, (drain (read s d).2 d fuel).2)

def Sniffer.loop : Loop Sniffer :=
  ⟨Sniffer.read, Sniffer.reads, Sniffer.drain, fun _ => rfl, fun _ _ _ => rfl, fun _ _ => rfl, fun _ _ _ => rfl⟩

def Ws.loop : Loop Ws :=
  ⟨Ws.read, Ws.reads, Ws.drain, fun _ => rfl, fun _ _ _ => rfl, fun _ _ => rfl, fun _ _ _ => rfl⟩

namespace Loop
variable {σ : Type} (R : Loop σ)

section acc
variable {P : σ → List RR → Prop}
  (step : ∀ s acc n, P s acc → P (R.read s n).2 (acc ++ [(R.read s n).1]))
include step

theorem reads_acc : ∀ (ns : List Nat) {s : σ} {acc : List RR}, P s acc →
    P (R.reads s ns).2 (acc ++ (R.reads s ns).1)
  | [], s, acc, h => by rw [R.reads_nil, List.append_nil]; exact h
  | n :: ns, s, acc, h => by
      have := reads_acc ns (step s acc n h)
      rw [List.append_assoc] at this
      rw [R.reads_cons]; exact this

theorem drain_acc (d : Nat) : ∀ (fuel : Nat) {s : σ} {acc : List RR}, P s acc →
    P (R.drain s d fuel).2 (acc ++ (R.drain s d fuel).1)
  | 0, s, acc, h => by rw [R.drain_zero, List.append_nil]; exact h
  | fuel + 1, s, acc, h => by
      have h1 := step s acc d h
      rw [R.drain_succ]
      split
      · exact h1
      · have := drain_acc d fuel h1
        rwa [List.append_assoc] at this

end acc

/-- if every read keeps `I` and returns a result with `Q`, then "`I` holds and every result so far has `Q`" is kept
by every read, hence by every loop -/
theorem each_step {I : σ → Prop} {Q : RR → Prop}
    (hread : ∀ {s}, I s → ∀ n, I (R.read s n).2 ∧ Q (R.read s n).1)
    (s : σ) (acc : List RR) (n : Nat) (h : I s ∧ ∀ r ∈ acc, Q r) :
    I (R.read s n).2 ∧ ∀ r ∈ acc ++ [(R.read s n).1], Q r :=
  ⟨(hread h.1 n).1, List.forall_mem_append.mpr ⟨h.2, List.forall_mem_singleton.mpr (hread h.1 n).2⟩⟩

/-- so every result of some reads and then a drain has `Q` -/
theorem forall_results {I : σ → Prop} {Q : RR → Prop}
    (hread : ∀ {s}, I s → ∀ n, I (R.read s n).2 ∧ Q (R.read s n).1)
    {s : σ} (hs : I s) (after : List Nat) (d fuel : Nat) :
    ∀ r ∈ (R.reads s after).1 ++ (R.drain (R.reads s after).2 d fuel).1, Q r :=
  (R.drain_acc (R.each_step hread) d fuel (R.reads_acc (R.each_step hread) after (acc := []) ⟨hs, by simp⟩)).2

variable {ok : σ → Prop} {left : σ → Bytes} {todo : σ → Nat}

/-- having returned `acc` of the stream `T`: the rest is what is left, and so far errors came only at
the end unless the flag was raised -/
structure Handed (ok : σ → Prop) (left : σ → Bytes) (T : Bytes) (s : σ) (acc : List RR) : Prop where
  ok : ok s
  stream : cat acc ++ left s = T
  errs : (∀ r ∈ acc, r.early = false) → errAtEnd T [] acc = true

theorem Handed.read (L : ReadLaws R.read ok left todo) {T : Bytes} {s : σ} {acc : List RR} (n : Nat)
    (h : Handed ok left T s acc) : Handed ok left T (R.read s n).2 (acc ++ [(R.read s n).1]) := by
  have hc : cat (acc ++ [(R.read s n).1]) ++ left (R.read s n).2 = T := by
    rw [cat_append, cat_cons, cat_nil, List.append_nil, List.append_assoc, L.left_read h.ok]; exact h.stream
  refine ⟨L.ok_read h.ok n, hc, fun hall => ?_⟩
  rw [errAtEnd_snoc, h.errs fun r hr => hall r (List.mem_append_left _ hr), Bool.true_and, Bool.or_eq_true,
    Bool.not_eq_true', beq_iff_eq]
  cases he : (R.read s n).1.err with
  | false => exact .inl rfl
  | true =>
    -- an error without the flag: nothing is left, so everything has been returned
    rw [L.err_read h.ok n he (hall _ List.mem_concat_self), List.append_nil,
      cat_append, cat_cons, cat_nil, List.append_nil] at hc
    exact .inr hc

/-- a drain with enough fuel ends on an error, so it gets everything -/
theorem drain_all (L : ReadLaws R.read ok left todo) {T : Bytes} (d : Nat) (hd : 0 < d) :
    ∀ (fuel : Nat) {s : σ} {acc : List RR}, Handed ok left T s acc → todo s < fuel →
    (∀ r ∈ acc ++ (R.drain s d fuel).1, r.early = false) →
    cat (acc ++ (R.drain s d fuel).1) = T ∧ errAtEnd T [] (acc ++ (R.drain s d fuel).1) = true
  | 0, _, _, _, hf, _ => by omega
  | fuel + 1, s, acc, h, hf, hall => by
      have h1 := h.read R L d
      rw [R.drain_succ] at hall ⊢
      split at hall
      · next he =>
        rw [if_pos he]
        have hl := L.err_read h.ok d he (hall _ List.mem_concat_self)
        have := h1.stream
        rw [hl, List.append_nil] at this
        exact ⟨this, h1.errs hall⟩
      · next he =>
        rw [if_neg he]
        have ht := L.todo_read h.ok d hd (by simpa using he)
        have := drain_all L d hd fuel h1 (by omega) (by rwa [List.append_assoc])
        rwa [List.append_assoc] at this

/-- after any reads, starting with nothing returned and `left s` to deliver -/
theorem reads_handed (L : ReadLaws R.read ok left todo) {s : σ} (h : ok s) (ns : List Nat) :
    Handed ok left (left s) (R.reads s ns).2 (R.reads s ns).1 := by
  have := R.reads_acc (P := Handed ok left (left s)) (fun _ _ n h => h.read R L n) ns (acc := [])
    ⟨h, rfl, fun _ => rfl⟩
  rwa [List.nil_append] at this

/-- from any state the contract admits, what some reads return and what is then left make up what was left before -/
theorem reads_left (L : ReadLaws R.read ok left todo) {s : σ} (h : ok s) (ns : List Nat) :
    cat (R.reads s ns).1 ++ left (R.reads s ns).2 = left s :=
  (R.reads_handed L h ns).stream

/-- the reads `after` and then a drain (with the fuel `todo + 1`) return exactly what was left, and no error
before the end — provided the flag stayed down -/
theorem deliver (L : ReadLaws R.read ok left todo) {s : σ} (h : ok s) (after : List Nat) (d : Nat) (hd : 0 < d)
    (hall : ∀ r ∈ (R.reads s after).1 ++ (R.drain (R.reads s after).2 d (todo (R.reads s after).2 + 1)).1,
      r.early = false) :
    cat (R.reads s after).1 ++ cat (R.drain (R.reads s after).2 d (todo (R.reads s after).2 + 1)).1 = left s ∧
    errAtEnd (left s) []
      ((R.reads s after).1 ++ (R.drain (R.reads s after).2 d (todo (R.reads s after).2 + 1)).1) = true := by
  rw [← cat_append]
  exact R.drain_all L d hd _ (R.reads_handed L h after) (Nat.lt_succ_self _) hall

end Loop

section loops
variable {P : Sniffer → List RR → Prop}
  (step : ∀ s acc n, P s acc → P (s.read n).2 (acc ++ [(s.read n).1]))
include step

theorem readFull_acc (k : Nat) : ∀ (fuel : Nat) {s : Sniffer} {acc : List RR}, P s acc →
    P (s.readFull k fuel acc).2 (s.readFull k fuel acc).1
  | 0, _, _, h => h
  | fuel + 1, s, acc, h => by
      unfold Sniffer.readFull
      by_cases hk : k ≤ (cat acc).length
      · rw [if_pos hk]; exact h
      · rw [if_neg hk]
        have h1 := step s acc (k - (cat acc).length) h
        by_cases he : (s.read (k - (cat acc).length)).1.err = true
        · simp only [he, if_true]; exact h1
        · simp only [he]; exact readFull_acc k fuel h1

/-- whatever a matcher does, it is a loop of `Read` calls -/
theorem run_acc (m : Matcher) {s : Sniffer} (h : P s []) : P (m.run s).2.2 (m.run s).2.1 := by
  cases m with
  | any => exact h
  | pref strs => exact readFull_acc step (maxLen strs + 1) (maxLen strs + 1 + s.src.chunks.length + 1) h
  | custom sizes v => exact Sniffer.loop.reads_acc step sizes h

end loops

/-- in every mode: a sniffing phase, too, is a reader of what is pending and what the socket still holds -/
theorem Sniffer.laws : ReadLaws Sniffer.read WF Sniffer.left Sniffer.todo := by
  intro s n h
  refine ⟨h.step (.read n), ?_⟩
  by_cases hr : s.bufRead < s.bufSize
  · -- replay: `pending.take n` goes out and `pending.drop n` stays (`pending_replay`); an error without the flag
    -- means the cursor reached the end
    have hp := h.pending_replay n
    rw [Sniffer.read_replay s n hr]
    refine ⟨?_, ?_, ?_⟩
    · -- left
      show s.pending.take n ++ (Sniffer.pending _ ++ s.src.stream) = _
      rw [hp, ← List.append_assoc, List.take_append_drop]; rfl
    · -- an error without the flag
      intro (he : s.lastErr = true)
        (hearly : (s.lastErr && decide (s.bufRead + (s.pending.take n).length < s.bufSize)) = false)
      rw [he, Bool.true_and, decide_eq_false_iff_not] at hearly
      show Sniffer.pending _ ++ s.src.stream = []
      rw [Sniffer.pending_of_not_lt (s := { s with bufRead := _ }) hearly, Src.stream_nil (h.eof he)]; rfl
    · -- todo
      intro hn _
      have hl := h.pending_length
      show (Sniffer.pending _).length + s.src.stream.length + s.src.chunks.length < s.todo
      rw [hp, List.length_drop, Sniffer.todo]; omega
  · -- otherwise nothing is pending before or after, and the three claims are the source's (`read_stream`, `read_err`,
    -- `read_size`)
    obtain ⟨e1, e2, e3⟩ := s.read_source n hr
    rw [Sniffer.left, Sniffer.left, Sniffer.todo, Sniffer.todo, e1, e2, e3, Sniffer.pending_of_not_lt hr]
    refine ⟨Src.read_stream s.src n, fun he _ => ?_, fun hn he => ?_⟩
    · rw [Src.stream_nil (Src.read_err s.src n he)]; rfl
    · have := Src.read_size s.src n hn he
      simp only [Src.size] at this
      simp only [List.length_nil, Nat.zero_add]
      exact this

/-- the walk of `Listener.serve` over the matchers, once: if every phase keeps `I` (what holds between phases)
and what it saw satisfies `Φ`, then every phase saw something satisfying `Φ`, and the sniffer ends as some
`s'` with `I s'` — after `doneSniffing` if a matcher took the connection -/
theorem serve_acc {I : Sniffer → Prop} {Φ : List RR → Prop}
    (phase : ∀ (s : Sniffer) (m : Matcher), I s → I (m.run (s.reset true)).2.2 ∧ Φ (m.run (s.reset true)).2.1) :
    ∀ (ms : List (Nat × Matcher)) {s : Sniffer}, I s →
    (∀ rs ∈ (serve s ms).2.1, Φ rs) ∧
    ∃ s', I s' ∧ (serve s ms).2.2 = if (serve s ms).1.isSome = true then s'.reset false else s'
  | [], s, h => ⟨fun _ hrs => absurd hrs List.not_mem_nil, s, h, rfl⟩
  | (i, m) :: rest, s, h => by
      obtain ⟨h1, hΦ⟩ := phase s m h
      unfold serve
      simp only
      by_cases hok : (m.run (s.reset true)).1 = true
      · simp only [hok, if_true]
        exact ⟨List.forall_mem_singleton.mpr hΦ, _, h1, rfl⟩
      · simp only [hok]
        obtain ⟨g1, g2⟩ := serve_acc phase rest h1
        exact ⟨List.forall_mem_cons.mpr ⟨hΦ, g1⟩, g2⟩

theorem serve_inv {T} (ms : List (Nat × Matcher)) {s : Sniffer} (h : Base T s) :
    (∀ rs ∈ (serve s ms).2.1, cat rs <+: T) ∧
    ((serve s ms).1.isSome = true → WF (serve s ms).2.2 ∧ (serve s ms).2.2.left = T) := by
  have phase : ∀ (s : Sniffer) (m : Matcher), Base T s →
      Base T (m.run (s.reset true)).2.2 ∧ cat (m.run (s.reset true)).2.1 <+: T := by
    intro s m h
    have h1 : SInv T (m.run (s.reset true)).2.2 (cat (m.run (s.reset true)).2.1) :=
      run_acc (P := fun s acc => SInv T s (cat acc))
        (fun s acc n h => by rw [cat_append, cat_cons, cat_nil, List.append_nil]; exact h.read n) m h.start
    exact ⟨h1.base, h1.prefix⟩
  obtain ⟨g1, s', hs', e⟩ := serve_acc (Φ := fun rs => cat rs <+: T) phase ms h
  refine ⟨g1, fun hm => ?_⟩
  rw [e, if_pos hm]
  exact ⟨hs'.wf.step (.reset false), (s'.left_reset false).trans hs'.str⟩

theorem serve_noTail (ms : List (Nat × Matcher)) {s : Sniffer} (h : NoTail s) :
    NoTail (serve s ms).2.2 ∧ ∀ rs ∈ (serve s ms).2.1, ∀ r ∈ rs, r.early = false := by
  have phase : ∀ (s : Sniffer) (m : Matcher), NoTail s →
      NoTail (m.run (s.reset true)).2.2 ∧ ∀ r ∈ (m.run (s.reset true)).2.1, r.early = false := by
    intro s m h
    exact run_acc (Sniffer.loop.each_step NoTail.read) m ⟨h.reset true, by simp⟩
  obtain ⟨g1, s', hs', e⟩ := serve_acc (Φ := fun rs => ∀ r ∈ rs, r.early = false) phase ms h
  refine ⟨?_, g1⟩
  rw [e]
  split
  · exact hs'.reset false
  · exact hs'

theorem WQ.flush_inv (s : WQ) :
    s.flush.2.sock.flatten ++ s.flush.2.queue = s.sock.flatten ++ s.queue ∧ s.flush.2.queue = [] := by
  unfold WQ.flush
  by_cases h : s.queue.length = 0
  · have : s.queue = [] := List.eq_nil_of_length_eq_zero h
    simp [this]
  · simp [h]

theorem WQ.step_inv (s : WQ) (op : WOp) (ops : List WOp) :
    (s.step op).sock.flatten ++ (s.step op).queue ++ written ops =
      s.sock.flatten ++ s.queue ++ written (op :: ops) := by
  cases op with
  | flush => rw [WQ.step, (WQ.flush_inv s).1]; rfl
  | write l p =>
      simp only [WQ.step, WQ.write, written]
      by_cases hl : l = true
      · simp [hl]
      · simp only [hl, Bool.false_eq_true, if_false]
        by_cases hq : 0 < s.queue.length
        · rw [if_pos hq, (WQ.flush_inv { s with queue := s.queue ++ p }).1]; simp
        · have : s.queue = [] := List.eq_nil_of_length_eq_zero (by omega)
          simp [this]

theorem WQ.run_inv : ∀ (ops : List WOp) (s : WQ),
    (ops.foldl WQ.step s).sock.flatten ++ (ops.foldl WQ.step s).queue = s.sock.flatten ++ s.queue ++ written ops
  | [], s => by simp [written]
  | op :: ops, s => by rw [List.foldl_cons, WQ.run_inv ops (s.step op), WQ.step_inv]

theorem nextData_some {fs : List Frame} {r : Src} {rest : List Frame} (h : nextData fs = some (r, rest)) :
    payload fs = r.stream ++ payload rest ∧ r.size + 2 + framesSize rest ≤ framesSize fs := by
  induction fs with
  | nil => simp [nextData] at h
  | cons f t ih =>
      by_cases hd : f.isData = true
      · simp only [nextData, hd, if_true, Option.some.injEq, Prod.mk.injEq] at h
        simp [payload, framesSize, hd, ← h.1, ← h.2]
      · simp only [nextData, hd] at h
        have := ih h
        simp only [payload, framesSize, hd, this.1]
        exact ⟨rfl, by omega⟩

theorem nextData_none {fs : List Frame} (h : nextData fs = none) : payload fs = [] := by
  induction fs with
  | nil => rfl
  | cons f t ih =>
      by_cases hd : f.isData = true
      · simp [nextData, hd] at h
      · simp only [nextData, hd] at h
        simp [payload, hd, ih h]

theorem Ws.readCur_eq (w : Ws) (r : Src) (n : Nat) : w.readCur r n =
    ({ data := (r.read n).1, err := false },
     { w with cur := if (r.read n).2.1 then none else some (r.read n).2.2 }) := rfl

/-- reading inside a message whose reader is `r`, with the frames of `w` behind it: the last three clauses of
`ReadLaws` for a caller that is owed `left` and counts `todo` (the second is vacuous: the end of a message, the inner
reader's EOF, is not reported as an error) -/
theorem Ws.readCur_law (w : Ws) (r : Src) (n : Nat) {left : Bytes} {todo : Nat}
    (hl : left = r.stream ++ payload w.frames) (ht : r.size + 1 + framesSize w.frames ≤ todo) :
    (w.readCur r n).1.data ++ (w.readCur r n).2.rest = left ∧
    ((w.readCur r n).1.err = true → (w.readCur r n).1.early = false → (w.readCur r n).2.rest = []) ∧
    (0 < n → (w.readCur r n).1.err = false → (w.readCur r n).2.todo < todo) := by
  rw [Ws.readCur_eq, hl, ← Src.read_stream r n]
  cases he : (r.read n).2.1 with
  | true =>
    -- the message ends: its reader had nothing more and is dropped
    refine ⟨?_, nofun, fun _ _ => ?_⟩
    · rw [Src.stream_nil (Src.read_err r n he), List.append_nil]; rfl
    · show 0 + framesSize w.frames < todo
      omega
  | false =>
    refine ⟨(List.append_assoc ..).symm, nofun, fun hn _ => ?_⟩
    have := Src.read_size r n hn he
    show (r.read n).2.2.size + 1 + framesSize w.frames < todo
    omega

/-- the websocket transport never raises the sniffer's flag -/
theorem Ws.read_early (w : Ws) (n : Nat) : (w.read n).1.early = false := by
  unfold Ws.read
  split
  · rfl
  · split <;> rfl

theorem Ws.laws : ReadLaws Ws.read (fun _ => True) Ws.rest Ws.todo := by
  intro w n _
  refine ⟨trivial, ?_⟩
  unfold Ws.read
  cases hc : w.cur with
  | some r =>
      -- inside a message
      exact Ws.readCur_law w r n (hl := by rw [Ws.rest, hc]) (ht := by rw [Ws.todo, hc]; exact Nat.le_refl _)
  | none =>
      cases hnext : nextData w.frames with
      | none =>
          -- no data message is left: the error, and nothing remains
          exact ⟨by simp [Ws.rest, hc, nextData_none hnext, payload], fun _ _ => by simp [Ws.rest, payload],
            fun _ he => by cases he⟩
      | some p =>
          -- the next data message is opened and read
          obtain ⟨r, rest⟩ := p
          obtain ⟨p1, p2⟩ := nextData_some hnext
          refine Ws.readCur_law { cur := none, frames := rest } r n (hl := by rw [Ws.rest, hc, p1]; rfl) (ht := ?_)
          rw [Ws.todo, hc]
          show r.size + 1 + framesSize rest ≤ 0 + framesSize w.frames
          omega

theorem wsWrites_eq : ∀ (ps : List Bytes) (sink : List (Nat × Bytes)),
    wsWrites sink ps = sink ++ ps.map (fun b => (Generated.wsBinaryMessage, b))
  | [], sink => by simp [wsWrites]
  | b :: bs, sink => by simp [wsWrites, wsWrite, wsWrites_eq bs]

end Emitter.Transport
