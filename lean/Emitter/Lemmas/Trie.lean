/-
  The subscription trie against its abstraction `abs`, the list of (filter, subscriber) pairs: what subscribe and
  unsubscribe do to `abs` (up to order) and to well-formedness, what the two lookups and the share groups return,
  and the refinement of a history of operations to the set of acknowledged pairs.
  Each operation is walked once (beside the small facts about `find?` and `isEmpty` that `Kids.Keeps.cons` asks for):
  `Node.inserted` / `Kids.inserted` and `Node.removed` / `Kids.removed` prove one record per operation. Its field
  `perm` needs no hypothesis and gives the length forms; `new` / `hit` say what the flag means under `distinct` and,
  with `perm`, give the membership forms; `keeps` gives the preservation of `wf`.
  Statements are per function (`Node.…` / `Kids.…`) under just the parts of `wf` they need, or none; a prime marks
  those that have an unprimed form for the whole `wf` or the whole trie. `lookup_spec`, `matches_self`, `wf_empty`,
  `T.subscribe_sync`, `T.unsubscribe_sync` are what the broker files use.
-/
import Emitter.Model.Trie
import Emitter.Lemmas.Basic
namespace Emitter.Trie
open Emitter List

/-- structural invariant of every reachable trie -/
def Node.wf (n : Node) : Prop := n.distinct = true ∧ n.pruned = true ∧ n.nodupSubs = true

theorem Node.nodupSubs_mk (subs : List Sub) (kids : Kids) :
    (Node.mk subs kids).nodupSubs = true ↔ subs.Nodup ∧ kids.nodupSubs = true := by
  simp only [Node.nodupSubs, Bool.and_eq_true, beq_iff_eq, eraseDups_length_eq_iff]

theorem Kids.nodupSubs_cons (w : Word) (n : Node) (rest : Kids) :
    (Kids.cons w n rest).nodupSubs = true ↔ n.nodupSubs = true ∧ rest.nodupSubs = true := by
  simp [Kids.nodupSubs]

theorem Kids.pruned_cons (w : Word) (n : Node) (rest : Kids) :
    (Kids.cons w n rest).pruned = true ↔ n.isEmpty = false ∧ n.pruned = true ∧ rest.pruned = true := by
  simp [Kids.pruned, and_assoc]

theorem Kids.distinct_cons (w : Word) (n : Node) (rest : Kids) :
    (Kids.cons w n rest).distinct = true ↔
      rest.find? w = none ∧ n.distinct = true ∧ rest.distinct = true := by
  simp [Kids.distinct, and_assoc]

theorem Kids.find?_cons_self (w : Word) (n : Node) (rest : Kids) :
    (Kids.cons w n rest).find? w = some n := by simp [Kids.find?]

theorem Kids.find?_cons_ne {w' w : Word} (h : w' ≠ w) (n : Node) (rest : Kids) :
    (Kids.cons w' n rest).find? w = rest.find? w := by simp [Kids.find?, h]

theorem Kids.insertAt_cons_self (w : Word) (n : Node) (rest : Kids) (ws : Path) (s : Sub) :
    (Kids.cons w n rest).insertAt w ws s = (.cons w (n.insert ws s).1 rest, (n.insert ws s).2) := by
  simp [Kids.insertAt]

theorem Kids.insertAt_cons_ne {w' w : Word} (h : w' ≠ w) (n : Node) (rest : Kids) (ws : Path) (s : Sub) :
    (Kids.cons w' n rest).insertAt w ws s =
      (.cons w' n (rest.insertAt w ws s).1, (rest.insertAt w ws s).2) := by
  simp [Kids.insertAt, h]

theorem Kids.removeAt_cons_self (w : Word) (n : Node) (rest : Kids) (ws : Path) (s : Sub) :
    (Kids.cons w n rest).removeAt w ws s =
      (if (n.remove ws s).1.isEmpty then rest else .cons w (n.remove ws s).1 rest, (n.remove ws s).2) := by
  simp only [Kids.removeAt, beq_self_eq_true, if_true]
  split <;> rfl

theorem Kids.removeAt_cons_ne {w' w : Word} (h : w' ≠ w) (n : Node) (rest : Kids) (ws : Path) (s : Sub) :
    (Kids.cons w' n rest).removeAt w ws s =
      (.cons w' n (rest.removeAt w ws s).1, (rest.removeAt w ws s).2) := by
  simp [Kids.removeAt, h]

theorem Node.exists_abs {subs : List Sub} {kids : Kids} {s : Sub} {P : Path → Prop} :
    (∃ f, (f, s) ∈ (Node.mk subs kids).abs ∧ P f) ↔
      (s ∈ subs ∧ P []) ∨ ∃ f, (f, s) ∈ kids.abs ∧ P f := by
  simp only [Node.abs, mem_append, mem_map, Prod.mk.injEq, or_and_right, exists_or]
  refine or_congr ⟨?_, fun ⟨h, hp⟩ => ⟨[], ⟨s, h, rfl, rfl⟩, hp⟩⟩ .rfl
  rintro ⟨_, ⟨_, h, rfl, rfl⟩, hp⟩
  exact ⟨h, hp⟩

theorem Kids.exists_abs_cons {w : Word} {n : Node} {rest : Kids} {s : Sub} {P : Path → Prop} :
    (∃ f, (f, s) ∈ (Kids.cons w n rest).abs ∧ P f) ↔
      (∃ f, (f, s) ∈ n.abs ∧ P (w :: f)) ∨ ∃ f, (f, s) ∈ rest.abs ∧ P f := by
  simp only [Kids.abs, mem_append, mem_map, Prod.mk.injEq, or_and_right, exists_or]
  refine or_congr ⟨?_, fun ⟨f, h, hp⟩ => ⟨_, ⟨(f, s), h, rfl, rfl⟩, hp⟩⟩ .rfl
  rintro ⟨_, ⟨⟨f, _⟩, h, rfl, rfl⟩, hp⟩
  exact ⟨f, h, hp⟩

theorem Kids.nil_not_mem_abs : (k : Kids) → (s : Sub) → ([], s) ∉ k.abs
  | .nil, s => by simp [Kids.abs]
  | .cons w n rest, s => by simp [Kids.abs, Kids.nil_not_mem_abs rest s]

theorem Kids.exists_abs (k : Kids) {s : Sub} {P : Path → Prop} :
    (∃ f, (f, s) ∈ k.abs ∧ P f) ↔ ∃ a t, (a :: t, s) ∈ k.abs ∧ P (a :: t) := by
  refine ⟨?_, fun ⟨_, _, h⟩ => ⟨_, h⟩⟩
  rintro ⟨_ | ⟨a, t⟩, h, hp⟩
  · exact absurd h (Kids.nil_not_mem_abs k s)
  · exact ⟨a, t, h, hp⟩

theorem Node.mem_abs_nil (subs : List Sub) (kids : Kids) (s : Sub) :
    ([], s) ∈ (Node.mk subs kids).abs ↔ s ∈ subs := by
  simp [Node.abs, Kids.nil_not_mem_abs]

theorem Node.mem_abs_cons (subs : List Sub) (kids : Kids) (w : Word) (ws : Path) (s : Sub) :
    (w :: ws, s) ∈ (Node.mk subs kids).abs ↔ (w :: ws, s) ∈ kids.abs := by
  simp [Node.abs]

theorem Kids.mem_abs_cons (w' : Word) (n : Node) (rest : Kids) (w : Word) (ws : Path) (s : Sub) :
    (w :: ws, s) ∈ (Kids.cons w' n rest).abs ↔ (w' = w ∧ (ws, s) ∈ n.abs) ∨ (w :: ws, s) ∈ rest.abs := by
  simpa [and_assoc, and_comm] using @Kids.exists_abs_cons w' n rest s (· = w :: ws)

theorem Kids.not_mem_abs_of_find_none : (k : Kids) → (w : Word) → (ws : Path) → (s : Sub) →
    k.find? w = none → (w :: ws, s) ∉ k.abs
  | .nil, w, ws, s, _ => by simp [Kids.abs]
  | .cons w' n rest, w, ws, s, h => by
      by_cases hw : w' = w
      · simp [hw, Kids.find?] at h
      · rw [Kids.find?_cons_ne hw] at h
        simp [Kids.mem_abs_cons, hw, Kids.not_mem_abs_of_find_none rest w ws s h]

/-- the child filed under `w` (children carry distinct words): it is `distinct` again, and it holds exactly the
pairs of `k` whose filter starts with `w` -/
theorem Kids.child : (k : Kids) → (w : Word) → (n : Node) → k.distinct = true → k.find? w = some n →
    n.distinct = true ∧ ∀ (p : Path) (s : Sub), (w :: p, s) ∈ k.abs ↔ (p, s) ∈ n.abs
  | .cons w' n' rest, w, n, hd, h => by
      obtain ⟨hf, hdn, hdr⟩ := (Kids.distinct_cons ..).mp hd
      by_cases hw : w' = w
      · subst hw
        cases (Kids.find?_cons_self ..).symm.trans h
        exact ⟨hdn, fun p s => by simp [Kids.mem_abs_cons, Kids.not_mem_abs_of_find_none rest w' p s hf]⟩
      · rw [Kids.find?_cons_ne hw] at h
        obtain ⟨hc, ha⟩ := Kids.child rest w n hdr h
        exact ⟨hc, fun p s => by simp [Kids.mem_abs_cons, hw, ha p s]⟩

theorem Node.abs_of_isEmpty : (n : Node) → n.isEmpty = true → n.abs = []
  | .mk [] .nil, _ => rfl
  | .mk (_ :: _) _, h | .mk [] (.cons ..), h => by simp [Node.isEmpty, Kids.isNil] at h

theorem Node.fresh_abs : (p : Path) → (s : Sub) → (Node.fresh p s).abs = [(p, s)]
  | [], s => rfl
  | w :: ws, s => by simp [Node.fresh, Node.abs, Kids.abs, Node.fresh_abs ws s]

/-- "`l'` is `l` plus maybe `e`" survives `map f` and a frame `pre ++ · ++ post` -/
theorem perm_frame {α β} {b : Bool} {e : α} {l l' : List α} (f : α → β) (pre post : List β)
    (h : l' ~ if b then e :: l else l) :
    pre ++ (map f l' ++ post) ~
      if b then f e :: (pre ++ (map f l ++ post)) else pre ++ (map f l ++ post) := by
  have := ((h.map f).append_right post).append_left pre
  cases b
  · exact this
  · exact this.trans perm_middle

theorem perm_frame_left {α} {b : Bool} {e : α} {l l' : List α} (pre : List α)
    (h : l' ~ if b then e :: l else l) : pre ++ l' ~ if b then e :: (pre ++ l) else pre ++ l := by
  simpa using perm_frame id pre [] h

theorem Node.fresh_not_empty : (p : Path) → (s : Sub) → (Node.fresh p s).isEmpty = false
  | [], _ | _ :: _, _ => rfl

theorem Node.fresh_wf : (p : Path) → (s : Sub) → (Node.fresh p s).wf
  | [], _ => ⟨rfl, rfl, (Node.nodupSubs_mk ..).mpr ⟨by simp, rfl⟩⟩
  | w :: ws, s =>
      have ⟨hd, hp, hn⟩ := Node.fresh_wf ws s
      ⟨(Kids.distinct_cons ..).mpr ⟨rfl, hd, rfl⟩,
       (Kids.pruned_cons w _ .nil).mpr ⟨Node.fresh_not_empty ws s, hp, rfl⟩,
       (Node.nodupSubs_mk ..).mpr ⟨.nil, (Kids.nodupSubs_cons w _ .nil).mpr ⟨hn, rfl⟩⟩⟩

theorem Kids.find?_insertAt_ne : (k : Kids) → (w : Word) → (ws : Path) → (s : Sub) → (x : Word) →
    w ≠ x → (k.insertAt w ws s).1.find? x = k.find? x
  | .nil, w, ws, s, x, h => Kids.find?_cons_ne h _ _
  | .cons w' n rest, w, ws, s, x, h => by
      by_cases hw : w' = w
      · subst hw
        rw [Kids.insertAt_cons_self, Kids.find?_cons_ne h, Kids.find?_cons_ne h]
      · rw [Kids.insertAt_cons_ne hw]
        by_cases hx : w' = x
        · subst hx
          rw [Kids.find?_cons_self, Kids.find?_cons_self]
        · rw [Kids.find?_cons_ne hx, Kids.find?_cons_ne hx]
          exact Kids.find?_insertAt_ne rest w ws s x h

theorem Kids.find?_removeAt_none : (k : Kids) → (w : Word) → (ws : Path) → (s : Sub) → (x : Word) →
    k.find? x = none → (k.removeAt w ws s).1.find? x = none
  | .nil, w, ws, s, x, h => h
  | .cons w' n rest, w, ws, s, x, h => by
      have hx : w' ≠ x := by
        rintro rfl
        simp [Kids.find?] at h
      rw [Kids.find?_cons_ne hx] at h
      by_cases hw : w' = w
      · subst hw
        rw [Kids.removeAt_cons_self]
        split
        · exact h
        · rwa [Kids.find?_cons_ne hx]
      · rw [Kids.removeAt_cons_ne hw, Kids.find?_cons_ne hx]
        exact Kids.find?_removeAt_none rest w ws s x h

theorem Kids.insertAt_isNil : (k : Kids) → (w : Word) → (ws : Path) → (s : Sub) →
    (k.insertAt w ws s).1.isNil = false
  | .nil, _, _, _ => rfl
  | .cons .., _, _, _ => by
      rw [Kids.insertAt]
      split <;> rfl

theorem Node.insert_not_empty : (n : Node) → (p : Path) → (s : Sub) → (n.insert p s).1.isEmpty = false
  | .mk subs kids, [], s => by
      rw [Node.insert]
      split
      · next hc => cases subs with
        | nil => cases hc
        | cons => rfl
      · rfl
  | .mk subs kids, w :: ws, s => by
      show (subs.isEmpty && (kids.insertAt w ws s).1.isNil) = false
      rw [Kids.insertAt_isNil, Bool.and_false]

/-- `n'` is well-formed in each part in which `n` is. Part by part, because the statements about `Kids` below each
assume one part only. Both operations are built from reflexivity and one rule per way a result is built: `kids`,
`subs`, `cons`, `drop`. -/
structure Node.Keeps (n n' : Node) : Prop where
  distinct : n.distinct = true → n'.distinct = true
  pruned : n.pruned = true → n'.pruned = true
  nodupSubs : n.nodupSubs = true → n'.nodupSubs = true

structure Kids.Keeps (k k' : Kids) : Prop where
  distinct : k.distinct = true → k'.distinct = true
  pruned : k.pruned = true → k'.pruned = true
  nodupSubs : k.nodupSubs = true → k'.nodupSubs = true

theorem Node.Keeps.rfl {n : Node} : n.Keeps n := ⟨id, id, id⟩

theorem Kids.Keeps.rfl {k : Kids} : k.Keeps k := ⟨id, id, id⟩

theorem Node.Keeps.wf {n n' : Node} (hk : n.Keeps n') (h : n.wf) : n'.wf :=
  ⟨hk.distinct h.1, hk.pruned h.2.1, hk.nodupSubs h.2.2⟩

theorem Node.Keeps.kids {subs : List Sub} {k k' : Kids} (h : k.Keeps k') :
    (Node.mk subs k).Keeps (.mk subs k') where
  distinct := h.distinct
  pruned := h.pruned
  nodupSubs := by
    simp only [Node.nodupSubs_mk]
    exact fun ⟨hs, hk⟩ => ⟨hs, h.nodupSubs hk⟩

theorem Node.Keeps.subs {subs subs' : List Sub} {k : Kids} (h : subs.Nodup → subs'.Nodup) :
    (Node.mk subs k).Keeps (.mk subs' k) where
  distinct := id
  pruned := id
  nodupSubs := by
    simp only [Node.nodupSubs_mk]
    exact fun ⟨hs, hk⟩ => ⟨h hs, hk⟩

theorem Kids.Keeps.cons {w : Word} {n n' : Node} {rest rest' : Kids} (hn : n.Keeps n')
    (he : n.isEmpty = false → n'.isEmpty = false) (hr : rest.Keeps rest')
    (hf : rest.find? w = none → rest'.find? w = none) : (Kids.cons w n rest).Keeps (.cons w n' rest') where
  distinct := by
    simp only [Kids.distinct_cons]
    exact fun ⟨hw, hd, hdr⟩ => ⟨hf hw, hn.distinct hd, hr.distinct hdr⟩
  pruned := by
    simp only [Kids.pruned_cons]
    exact fun ⟨hne, hp, hpr⟩ => ⟨he hne, hn.pruned hp, hr.pruned hpr⟩
  nodupSubs := by
    simp only [Kids.nodupSubs_cons]
    exact fun ⟨hs, hsr⟩ => ⟨hn.nodupSubs hs, hr.nodupSubs hsr⟩

theorem Kids.Keeps.drop {w : Word} {n : Node} {rest : Kids} : (Kids.cons w n rest).Keeps rest where
  distinct h := ((Kids.distinct_cons ..).mp h).2.2
  pruned h := ((Kids.pruned_cons ..).mp h).2.2
  nodupSubs h := ((Kids.nodupSubs_cons ..).mp h).2

/-- all that is proved of one subscribe by walking the path, as a relation between the node `n`, a pair `e` and a
result `r` (node after, flag). `Node.inserted n p s` proves it of `e = (p, s)` and `r = n.insert p s`, so its `perm`
reads `(n.insert p s).1.abs ~ if (n.insert p s).2 then (p, s) :: n.abs else n.abs`. `r` is a parameter (and `e`, so
that the `Kids` twin has the same fields) so that a case of the walk rewrites the result once, by its defining
equation, and then gives the fields. `perm`: up to order the pair is added to `abs` or `abs`
is left alone, and the flag says which; this needs no hypothesis on the trie, and the length forms are read off
it. `new`: what the flag means, under `distinct`; the membership form `Node.abs_insert'` needs it beside `perm`.
`keeps`: every part of `wf` is kept. -/
structure Node.Inserted (n : Node) (e : Path × Sub) (r : Node × Bool) : Prop where
  perm : r.1.abs ~ if r.2 then e :: n.abs else n.abs
  new : n.distinct = true → (r.2 = true ↔ e ∉ n.abs)
  keeps : n.Keeps r.1

structure Kids.Inserted (k : Kids) (e : Path × Sub) (r : Kids × Bool) : Prop where
  perm : r.1.abs ~ if r.2 then e :: k.abs else k.abs
  new : k.distinct = true → (r.2 = true ↔ e ∉ k.abs)
  keeps : k.Keeps r.1

mutual
theorem Node.inserted : (n : Node) → (p : Path) → (s : Sub) → n.Inserted (p, s) (n.insert p s)
  | .mk subs kids, [], s => by
      rw [Node.insert]
      split
      · -- already there: nothing changes
        next hc =>
          exact
            { perm := .rfl
              new := fun _ => by simpa [Node.mem_abs_nil] using hc
              keeps := .rfl }
      · -- new: `s` heads the subscribers, so the pair heads `abs`
        next hc =>
          exact
            { perm := by simp [Node.abs]
              new := fun _ => by simpa [Node.mem_abs_nil] using hc
              keeps := .subs fun h => nodup_cons.mpr ⟨by simpa using hc, h⟩ }
  | .mk subs kids, w :: ws, s =>
      have ih := Kids.inserted kids w ws s
      { perm := perm_frame_left _ ih.perm
        new := fun h => (ih.new h).trans (not_congr (Node.mem_abs_cons ..).symm)
        keeps := .kids ih.keeps }
theorem Kids.inserted : (k : Kids) → (w : Word) → (ws : Path) → (s : Sub) →
    k.Inserted (w :: ws, s) (k.insertAt w ws s)
  | .nil, w, ws, s =>
      -- the result is the one child of `Node.fresh (w :: ws) s`
      have ⟨hd, hp, hn⟩ := Node.fresh_wf (w :: ws) s
      { perm := by simp [Kids.insertAt, Kids.abs, Node.fresh_abs]
        new := fun _ => by simp [Kids.insertAt, Kids.abs]
        keeps :=
          { distinct := fun _ => hd
            pruned := fun _ => hp
            nodupSubs := fun _ => ((Node.nodupSubs_mk ..).mp hn).2 } }
  | .cons w' n rest, w, ws, s => by
      by_cases hw : w' = w
      · -- the child to descend into
        subst hw
        have ih := Node.inserted n ws s
        rw [Kids.insertAt_cons_self]
        exact
          { perm := perm_frame (fun ps : Path × Sub => (w' :: ps.1, ps.2)) [] rest.abs ih.perm
            new := fun h => by
              obtain ⟨hn, ha⟩ := Kids.child _ w' n h (Kids.find?_cons_self ..)
              exact (ih.new hn).trans (not_congr (ha ws s).symm)
            keeps := .cons (hn := ih.keeps) (he := fun _ => Node.insert_not_empty n ws s) (hr := .rfl) (hf := id) }
      · -- another child: on to the rest
        have ih := Kids.inserted rest w ws s
        rw [Kids.insertAt_cons_ne hw]
        exact
          { perm := perm_frame_left _ ih.perm
            new := fun h => by
              rw [Kids.mem_abs_cons, ih.new ((Kids.distinct_cons ..).mp h).2.2]
              simp [hw]
            keeps := .cons (hn := .rfl) (he := id) (hr := ih.keeps)
              (hf := fun h => by rwa [Kids.find?_insertAt_ne rest w ws s w' (Ne.symm hw)]) }
end

/-- all that is proved of one unsubscribe by walking the path: as `Node.Inserted`, with the pair taken from `abs`
instead of added -/
structure Node.Removed (n : Node) (e : Path × Sub) (r : Node × Bool) : Prop where
  perm : n.abs ~ if r.2 then e :: r.1.abs else r.1.abs
  hit : n.distinct = true → (r.2 = true ↔ e ∈ n.abs)
  keeps : n.Keeps r.1

structure Kids.Removed (k : Kids) (e : Path × Sub) (r : Kids × Bool) : Prop where
  perm : k.abs ~ if r.2 then e :: r.1.abs else r.1.abs
  hit : k.distinct = true → (r.2 = true ↔ e ∈ k.abs)
  keeps : k.Keeps r.1

mutual
theorem Node.removed : (n : Node) → (p : Path) → (s : Sub) → n.Removed (p, s) (n.remove p s)
  | .mk subs kids, [], s => by
      rw [Node.remove]
      split
      · -- a hit: `s` is erased from the subscribers
        next hc =>
          exact
            { perm := ((perm_cons_erase (by simpa using hc)).map _).append_right _
              hit := fun _ => by simpa [Node.mem_abs_nil] using hc
              keeps := .subs fun h => h.erase s }
      · -- a miss: nothing changes
        next hc =>
          exact
            { perm := .rfl
              hit := fun _ => by simpa [Node.mem_abs_nil] using hc
              keeps := .rfl }
  | .mk subs kids, w :: ws, s =>
      have ih := Kids.removed kids w ws s
      { perm := perm_frame_left _ ih.perm
        hit := fun h => (ih.hit h).trans (Node.mem_abs_cons ..).symm
        keeps := .kids ih.keeps }
theorem Kids.removed : (k : Kids) → (w : Word) → (ws : Path) → (s : Sub) →
    k.Removed (w :: ws, s) (k.removeAt w ws s)
  | .nil, w, ws, s =>
      { perm := .rfl
        hit := fun _ => by simp [Kids.removeAt, Kids.abs]
        keeps := .rfl }
  | .cons w' n rest, w, ws, s => by
      by_cases hw : w' = w
      · -- the child to descend into
        subst hw
        have ih := Node.removed n ws s
        rw [Kids.removeAt_cons_self]
        exact
          { perm := by
              have hp := perm_frame (fun ps : Path × Sub => (w' :: ps.1, ps.2)) [] rest.abs ih.perm
              split
              · -- the child became empty and is unlinked; its `abs` is `[]`, so nothing is lost
                next he => rwa [Node.abs_of_isEmpty _ he] at hp
              · exact hp
            hit := fun h => by
              obtain ⟨hn, ha⟩ := Kids.child _ w' n h (Kids.find?_cons_self ..)
              exact (ih.hit hn).trans (ha ws s).symm
            keeps := by
              split
              · -- the emptied child is unlinked
                exact .drop
              · next he =>
                  exact .cons (hn := ih.keeps) (he := fun _ => by simpa using he) (hr := .rfl) (hf := id) }
      · -- another child: on to the rest
        have ih := Kids.removed rest w ws s
        rw [Kids.removeAt_cons_ne hw]
        exact
          { perm := perm_frame_left _ ih.perm
            hit := fun h => by
              rw [Kids.mem_abs_cons, ih.hit ((Kids.distinct_cons ..).mp h).2.2]
              simp [hw]
            keeps := .cons (hn := .rfl) (he := id) (hr := ih.keeps)
              (hf := Kids.find?_removeAt_none rest w ws s w') }
end

theorem Kids.abs_length_insertAt' (k : Kids) (w : Word) (ws : Path) (s : Sub) :
    (k.insertAt w ws s).1.abs.length = k.abs.length + (if (k.insertAt w ws s).2 then 1 else 0) := by
  rw [(Kids.inserted k w ws s).perm.length_eq]
  split <;> rfl

theorem Kids.abs_length_removeAt' (k : Kids) (w : Word) (ws : Path) (s : Sub) :
    (k.removeAt w ws s).1.abs.length + (if (k.removeAt w ws s).2 then 1 else 0) = k.abs.length := by
  rw [(Kids.removed k w ws s).perm.length_eq]
  split <;> rfl

theorem Kids.insertAt_new_iff' (k : Kids) (w : Word) (ws : Path) (s : Sub) (h : k.distinct = true) :
    (k.insertAt w ws s).2 = true ↔ (w :: ws, s) ∉ k.abs :=
  (Kids.inserted k w ws s).new h

theorem Kids.removeAt_hit_iff' (k : Kids) (w : Word) (ws : Path) (s : Sub) (h : k.distinct = true) :
    (k.removeAt w ws s).2 = true ↔ (w :: ws, s) ∈ k.abs :=
  (Kids.removed k w ws s).hit h

theorem wf_insert {n : Node} (p : Path) (s : Sub) (h : n.wf) : (n.insert p s).1.wf :=
  (Node.inserted n p s).keeps.wf h

theorem wf_remove {n : Node} (p : Path) (s : Sub) (h : n.wf) : (n.remove p s).1.wf :=
  (Node.removed n p s).keeps.wf h

theorem Kids.distinct_insertAt (k : Kids) (w : Word) (ws : Path) (s : Sub) (h : k.distinct = true) :
    (k.insertAt w ws s).1.distinct = true :=
  (Kids.inserted k w ws s).keeps.distinct h

theorem Kids.nodupSubs_insertAt (k : Kids) (w : Word) (ws : Path) (s : Sub) (h : k.nodupSubs = true) :
    (k.insertAt w ws s).1.nodupSubs = true :=
  (Kids.inserted k w ws s).keeps.nodupSubs h

theorem Kids.distinct_removeAt (k : Kids) (w : Word) (ws : Path) (s : Sub) (h : k.distinct = true) :
    (k.removeAt w ws s).1.distinct = true :=
  (Kids.removed k w ws s).keeps.distinct h

theorem Kids.pruned_removeAt (k : Kids) (w : Word) (ws : Path) (s : Sub) (h : k.pruned = true) :
    (k.removeAt w ws s).1.pruned = true :=
  (Kids.removed k w ws s).keeps.pruned h

theorem Kids.nodupSubs_removeAt (k : Kids) (w : Word) (ws : Path) (s : Sub) (h : k.nodupSubs = true) :
    (k.removeAt w ws s).1.nodupSubs = true :=
  (Kids.removed k w ws s).keeps.nodupSubs h

mutual
theorem Node.abs_nodup' (n : Node) (hd : n.distinct = true) (hn : n.nodupSubs = true) :
    n.abs.Nodup := by
  match n with
  | .mk subs kids =>
      rw [Node.nodupSubs_mk] at hn
      refine nodup_append.mpr ⟨hn.1.map _ fun a b hab heq => hab (Prod.mk.inj heq).2,
        Kids.abs_nodup' kids hd hn.2, ?_⟩
      rintro _ ha _ hb rfl
      obtain ⟨t, _, rfl⟩ := mem_map.mp ha
      exact Kids.nil_not_mem_abs kids t hb
theorem Kids.abs_nodup' (k : Kids) (hd : k.distinct = true) (hn : k.nodupSubs = true) :
    k.abs.Nodup := by
  match k with
  | .nil => exact .nil
  | .cons w n rest =>
      obtain ⟨hf, hdn, hdr⟩ := (Kids.distinct_cons ..).mp hd
      obtain ⟨hnn, hnr⟩ := (Kids.nodupSubs_cons ..).mp hn
      refine nodup_append.mpr ⟨(Node.abs_nodup' n hdn hnn).map _ ?_, Kids.abs_nodup' rest hdr hnr, ?_⟩
      · intro a b hab heq
        simp only [Prod.mk.injEq, cons.injEq, true_and] at heq
        exact hab (Prod.ext heq.1 heq.2)
      · rintro _ ha _ hb rfl
        obtain ⟨⟨f, t⟩, _, rfl⟩ := mem_map.mp ha
        exact Kids.not_mem_abs_of_find_none rest w f t hf hb
end

theorem Node.mem_subs_iff : (n : Node) → (s : Sub) → (s ∈ n.subs ↔ ([], s) ∈ n.abs)
  | .mk subs kids, s => (Node.mem_abs_nil subs kids s).symm

mutual
theorem Node.lookupE_spec' (n : Node) (q : Path) (s : Sub) :
    s ∈ n.lookupE q ↔ ∃ f, (f, s) ∈ n.abs ∧ matchesE f q = true := by
  match n, q with
  | .mk subs kids, [] =>
      rw [Node.exists_abs, Kids.exists_abs]
      simp [Node.lookupE, matchesE]
  | .mk subs kids, w :: ws =>
      rw [Node.exists_abs, ← Kids.lookupE_spec' kids w ws s]
      simp [Node.lookupE, matchesE]
theorem Kids.lookupE_spec' (k : Kids) (w : Word) (ws : Path) (s : Sub) :
    s ∈ k.lookupE w ws ↔ ∃ f, (f, s) ∈ k.abs ∧ matchesE f (w :: ws) = true := by
  match k with
  | .nil => simp [Kids.lookupE, Kids.abs]
  | .cons w' n rest =>
      rw [Kids.exists_abs_cons, ← Kids.lookupE_spec' rest w ws s]
      simp only [Kids.lookupE, matchesE]
      generalize (w' == w || w' == wildcard) = c
      cases c <;> simp [← Node.lookupE_spec' n ws s]
end

mutual
theorem Node.lookupM_spec' (n : Node) (q : Path) (s : Sub) :
    s ∈ n.lookupM q ↔ ∃ f, (f, s) ∈ n.abs ∧ matchesM f q = true := by
  match n, q with
  | .mk subs kids, [] =>
      rw [Node.exists_abs, Kids.exists_abs]
      simp [Node.lookupM, matchesM]
  | .mk subs kids, w :: ws =>
      rw [Node.exists_abs, ← Kids.lookupM_spec' kids w ws s]
      simp [Node.lookupM, matchesM]
theorem Kids.lookupM_spec' (k : Kids) (w : Word) (ws : Path) (s : Sub) :
    s ∈ k.lookupM w ws ↔ ∃ f, (f, s) ∈ k.abs ∧ matchesM f (w :: ws) = true := by
  match k with
  | .nil => simp [Kids.lookupM, Kids.abs]
  | .cons w' n rest =>
      rw [Kids.exists_abs_cons, ← Kids.lookupM_spec' rest w ws s]
      simp only [Kids.lookupM, matchesM]
      generalize (w' == w || w' == wildcard) = c
      generalize (w' == multiWildcard) = d
      -- the `#` disjunct of `matchesM (w' :: f) (w :: ws)` forces `f = []`, and `([], s) ∈ n.abs` is `s ∈ n.subs`;
      -- the rest distributes `∨` over `∃`
      cases c <;> cases d <;>
        simp [← Node.lookupM_spec' n ws s, Node.mem_subs_iff, and_or_left, exists_or, or_assoc]
end

/-- the groups of `root/c/$share` are read off the children `k` of one node, which hold exactly the pairs filed
below that prefix; without such a node there are neither groups nor pairs -/
theorem shareGroups_cases (m : Mode) (root : Node) (c : Word) (q : Path) (hd : root.distinct = true) :
    (shareGroups m root (c :: q) = [] ∧ ∀ p s, (c :: shareWord :: p, s) ∉ root.abs) ∨
    ∃ k : Kids, k.distinct = true ∧ shareGroups m root (c :: q) = k.groups m q ∧
      ∀ g f s, (c :: shareWord :: g :: f, s) ∈ root.abs ↔ (g :: f, s) ∈ k.abs := by
  obtain ⟨_, rk⟩ := root
  simp only [shareGroups, Node.kids, Node.mem_abs_cons]
  cases hc : rk.find? c with
  | none => exact .inl ⟨rfl, fun p s => rk.not_mem_abs_of_find_none c _ s hc⟩
  | some cn =>
      obtain ⟨hdc, h1⟩ := rk.child c cn hd hc
      obtain ⟨_, ck⟩ := cn
      simp only [h1, Node.mem_abs_cons]
      cases hs : ck.find? shareWord with
      | none => exact .inl ⟨rfl, fun p s => ck.not_mem_abs_of_find_none _ p s hs⟩
      | some sn =>
          obtain ⟨hds, h2⟩ := ck.child shareWord sn hdc hs
          cases sn with
          | mk _ k => exact .inr ⟨k, hds, rfl, fun g f s => by rw [h2, Node.mem_abs_cons]⟩

theorem Kids.mem_groups : (k : Kids) → (m : Mode) → (q : Path) → (g : Word) → (cands : List Sub) →
    k.distinct = true →
    ((g, cands) ∈ k.groups m q ↔ ∃ n, k.find? g = some n ∧ cands = n.lookup m q)
  | .nil, m, q, g, cands, _ => by simp [Kids.groups, Kids.find?]
  | .cons w n rest, m, q, g, cands, hd => by
      obtain ⟨hf, _, hdr⟩ := (Kids.distinct_cons ..).mp hd
      rw [Kids.groups, mem_cons, Kids.mem_groups rest m q g cands hdr, Prod.mk.injEq]
      by_cases hw : w = g
      · subst hw
        simp [Kids.find?_cons_self, hf]
      · simp [Kids.find?_cons_ne hw, Ne.symm hw]

theorem Kids.groups_keys_nodup : (k : Kids) → (m : Mode) → (q : Path) → k.distinct = true →
    ((k.groups m q).map Prod.fst).Nodup
  | .nil, m, q, _ => .nil
  | .cons w n rest, m, q, hd => by
      obtain ⟨hf, _, hdr⟩ := (Kids.distinct_cons ..).mp hd
      refine nodup_cons.mpr ⟨fun h => ?_, Kids.groups_keys_nodup rest m q hdr⟩
      obtain ⟨⟨_, cands⟩, hg, rfl⟩ := mem_map.mp h
      obtain ⟨_, hn, _⟩ := (Kids.mem_groups rest m q _ cands hdr).mp hg
      cases hf.symm.trans hn

theorem wf_empty : Node.empty.wf := ⟨rfl, rfl, rfl⟩

theorem abs_nodup (n : Node) (h : n.wf) : n.abs.Nodup :=
  Node.abs_nodup' n h.1 h.2.2

theorem Node.abs_insert' (n : Node) (p : Path) (s : Sub) (hd : n.distinct = true) (e : Path × Sub) :
    e ∈ (n.insert p s).1.abs ↔ e = (p, s) ∨ e ∈ n.abs := by
  have ins := Node.inserted n p s
  rw [ins.perm.mem_iff]
  -- (`by_cases` would first look for a decision procedure for this membership, which is slow)
  rcases Classical.em ((p, s) ∈ n.abs) with hin | hin
  · -- the pair was there already: not reported new, nothing changes
    rw [if_neg fun hb => (ins.new hd).mp hb hin]
    exact (or_iff_right_of_imp (· ▸ hin)).symm
  · rw [if_pos ((ins.new hd).mpr hin)]
    exact mem_cons

theorem Node.abs_remove' (n : Node) (p : Path) (s : Sub) (hd : n.distinct = true)
    (hn : n.nodupSubs = true) (e : Path × Sub) :
    e ∈ (n.remove p s).1.abs ↔ e ∈ n.abs ∧ e ≠ (p, s) := by
  have hp := (Node.removed n p s).perm
  have hnd := hp.nodup_iff.mp (Node.abs_nodup' n hd hn)
  rw [hp.mem_iff]
  by_cases hb : (n.remove p s).2 = true
  · -- a hit: the removed pair heads a duplicate-free list, so it is not in the rest
    rw [if_pos hb] at hnd ⊢
    rw [mem_cons]
    constructor
    · intro h'
      exact ⟨.inr h', fun he => (nodup_cons.mp hnd).1 (he ▸ h')⟩
    · intro h'
      exact h'.1.resolve_left h'.2
  · -- a miss: nothing changes, and the pair was not there
    rw [if_neg hb] at hp ⊢
    refine ⟨fun h' => ⟨h', fun he => hb ?_⟩, And.left⟩
    exact ((Node.removed n p s).hit hd).mpr (he ▸ hp.mem_iff.mpr h')

theorem Kids.abs_removeAt' (k : Kids) (w : Word) (ws : Path) (s : Sub) (hd : k.distinct = true)
    (hn : k.nodupSubs = true) (f : Path) (t : Sub) :
    (f, t) ∈ (k.removeAt w ws s).1.abs ↔ (f, t) ∈ k.abs ∧ (f, t) ≠ (w :: ws, s) :=
  -- `k` as the node `.mk [] k` without subscribers of its own: its `abs`, `distinct` and `remove (w :: ws)` are those
  -- of `k` by computation
  Node.abs_remove' (.mk [] k) (w :: ws) s hd ((Node.nodupSubs_mk ..).mpr ⟨.nil, hn⟩) (f, t)

theorem lookup_spec (m : Mode) (n : Node) (q : Path) (s : Sub) :
    s ∈ n.lookup m q ↔ ∃ f, (f, s) ∈ n.abs ∧ matchesMode m f q = true := by
  cases m
  · exact Node.lookupE_spec' n q s
  · exact Node.lookupM_spec' n q s

theorem matchesE_self : ∀ p : Path, matchesE p p = true
  | [] => rfl
  | a :: p => by simp [matchesE, matchesE_self p]

theorem matchesM_self : ∀ p : Path, matchesM p p = true
  | [] => rfl
  | a :: p => by simp [matchesM, matchesM_self p]

theorem matches_self (m : Mode) (p : Path) : matchesMode m p p = true := by
  cases m
  · exact matchesE_self p
  · exact matchesM_self p

/-- the candidates of a share group are the subscribers holding a matching filter inside
`contract/$share/group/…` -/
theorem shareGroups_spec (m : Mode) (root : Node) (c : Word) (q : Path) (h : root.wf)
    (g : Word) (cands : List Sub) (hg : (g, cands) ∈ shareGroups m root (c :: q)) (s : Sub) :
    s ∈ cands ↔ ∃ f, (c :: shareWord :: g :: f, s) ∈ root.abs ∧ matchesMode m f q = true := by
  obtain ⟨he, _⟩ | ⟨k, hdk, he, hp⟩ := shareGroups_cases m root c q h.1
  · simp [he] at hg
  · obtain ⟨gn, hgn, rfl⟩ := (Kids.mem_groups k m q g cands hdk).mp (he ▸ hg)
    simp only [lookup_spec, hp, (Kids.child k g gn hdk hgn).2]

/-- every group below `contract/$share` that holds any pair is listed -/
theorem shareGroups_complete (m : Mode) (root : Node) (c : Word) (q : Path) (h : root.wf)
    (g : Word) (f : Path) (s : Sub) (hp : (c :: shareWord :: g :: f, s) ∈ root.abs) :
    ∃ cands, (g, cands) ∈ shareGroups m root (c :: q) := by
  obtain ⟨_, hno⟩ | ⟨k, hdk, he, hiff⟩ := shareGroups_cases m root c q h.1
  · exact absurd hp (hno _ s)
  · cases hgn : k.find? g with
    | none => exact absurd ((hiff g f s).mp hp) (Kids.not_mem_abs_of_find_none k g f s hgn)
    | some gn => exact ⟨_, he ▸ (Kids.mem_groups k m q g _ hdk).mpr ⟨gn, hgn, rfl⟩⟩

theorem shareGroups_nodup (m : Mode) (root : Node) (ssid : Path) (h : root.wf) :
    ((shareGroups m root ssid).map Prod.fst).Nodup := by
  cases ssid with
  | nil => exact .nil
  | cons c q =>
      obtain ⟨he, _⟩ | ⟨k, hdk, he, _⟩ := shareGroups_cases m root c q h.1
      · rw [he]
        exact .nil
      · rw [he]
        exact Kids.groups_keys_nodup k m q hdk

/-- `Lookup`: the direct receivers plus, for every share group with a matching member, the
one member chosen by `pick` — for every choice function -/
theorem lookupAll_spec (m : Mode) (pick : List Sub → Sub) (root : Node) (ssid : Path) (s : Sub) :
    s ∈ lookupAll m pick root ssid ↔
      s ∈ root.lookup m ssid ∨ ∃ g ∈ shareGroups m root ssid, g.2 ≠ [] ∧ s = pick g.2 := by
  simp only [lookupAll, mem_append, mem_map, mem_filter]
  constructor
  · rintro (h | ⟨g, ⟨hg, hne⟩, rfl⟩)
    · exact .inl h
    · exact .inr ⟨g, hg, by simpa using hne, rfl⟩
  · rintro (h | ⟨g, hg, hne, rfl⟩)
    · exact .inl h
    · exact .inr ⟨g, ⟨hg, by simpa using hne⟩, rfl⟩

/-- peels both lists at once; the index form of `matchesE` in `Props/C01` is an induction with this step -/
theorem forall_getElem_cons₂ {α} {P : α → α → Prop} (a b : α) (l m : List α) :
    (∀ i (h : i < (a :: l).length) (h' : i < (b :: m).length), P (a :: l)[i] (b :: m)[i]) ↔
      P a b ∧ ∀ i (h : i < l.length) (h' : i < m.length), P l[i] m[i] := by
  constructor
  · exact fun H => ⟨H 0 (by simp) (by simp), fun i h h' => H (i + 1) (by simpa) (by simpa)⟩
  · rintro ⟨h0, H⟩ (_ | i) h h'
    · exact h0
    · exact H i (by simpa using h) (by simpa using h')

theorem exists_list {α} {P : List α → Prop} : (∃ l, P l) ↔ P [] ∨ ∃ a l, P (a :: l) := by
  constructor
  · rintro ⟨_ | ⟨a, l⟩, h⟩
    · exact .inl h
    · exact .inr ⟨a, l, h⟩
  · rintro (h | ⟨a, l, h⟩)
    · exact ⟨[], h⟩
    · exact ⟨a :: l, h⟩

theorem matchesM_iff_matchesE (f q : Path) :
    matchesM f q = true ↔ (f.length = q.length ∧ matchesE f q = true) ∨
      ∃ g, f = g ++ [multiWildcard] ∧ g.length < q.length ∧ matchesE g q = true := by
  induction f generalizing q with
  | nil => cases q <;> simp [matchesM, matchesE]
  | cons a fs ih =>
      cases q with
      | nil => simp [matchesM]
      | cons c cs =>
          -- the part before a trailing `#` is empty (then `a` is the `#`) or starts with `a`
          rw [exists_list]
          simp only [matchesM, matchesE, ih cs, Bool.or_eq_true, Bool.and_eq_true, beq_iff_eq,
            isEmpty_iff, length_cons, Nat.add_right_cancel_iff, Nat.add_lt_add_iff_right, nil_append,
            cons_append, cons.injEq]
          constructor
          · rintro (⟨hg, ⟨hl, he⟩ | ⟨g, rfl, hl, he⟩⟩ | h)
            · exact .inl ⟨hl, hg, he⟩
            · exact .inr (.inr ⟨a, g, ⟨rfl, rfl⟩, hl, hg, he⟩)
            · exact .inr (.inl ⟨h, by simp⟩)
          · rintro (⟨hl, hg, he⟩ | h | ⟨_, g, ⟨rfl, rfl⟩, hl, hg, he⟩)
            · exact .inl ⟨hg, .inl ⟨hl, he⟩⟩
            · exact .inr h.1
            · exact .inl ⟨hg, .inr ⟨g, rfl, hl, he⟩⟩

mutual
theorem Node.eq_empty_of_abs_nil (n : Node) (hp : n.pruned = true) (he : n.abs = []) :
    n = Node.mk [] .nil := by
  match n with
  | .mk subs kids =>
      obtain ⟨hs, hk⟩ := append_eq_nil_iff.mp he
      rw [map_eq_nil_iff.mp hs, Kids.eq_nil_of_abs_nil kids hp hk]
theorem Kids.eq_nil_of_abs_nil (k : Kids) (hp : k.pruned = true) (he : k.abs = []) :
    k = .nil := by
  match k with
  | .nil => rfl
  | .cons w n rest =>
      obtain ⟨hne, hpn, _⟩ := (Kids.pruned_cons ..).mp hp
      rw [Node.eq_empty_of_abs_nil n hpn (map_eq_nil_iff.mp (append_eq_nil_iff.mp he).1)] at hne
      cases hne
end

inductive Op where
  | sub (p : Path) (s : Sub)
  | unsub (p : Path) (s : Sub)
deriving Repr

def T.step (t : T) : Op → T
  | .sub p s => t.subscribe p s
  | .unsub p s => t.unsubscribe p s

/-- one step of the specification, whose state is the set of acknowledged (filter, subscriber) pairs -/
def specStep (S : List (Path × Sub)) : Op → List (Path × Sub)
  | .sub p s => if (p, s) ∈ S then S else (p, s) :: S
  | .unsub p s => S.filter (fun e => e != (p, s))

def run (ops : List Op) : T := ops.foldl T.step {}
def specRun (ops : List Op) : List (Path × Sub) := ops.foldl specStep []

theorem T.subscribe_sync (t : T) (p : Path) (s : Sub) (hwf : t.root.wf)
    (hc : t.count = t.root.abs.length) :
    (t.subscribe p s).root.wf ∧ (t.subscribe p s).count = (t.subscribe p s).root.abs.length ∧
      ∀ e, e ∈ (t.subscribe p s).root.abs ↔ e = (p, s) ∨ e ∈ t.root.abs := by
  refine ⟨wf_insert p s hwf, ?_, Node.abs_insert' _ p s hwf.1⟩
  simp only [T.subscribe, (Node.inserted t.root p s).perm.length_eq, hc]
  split <;> rfl

theorem T.unsubscribe_sync (t : T) (p : Path) (s : Sub) (hwf : t.root.wf)
    (hc : t.count = t.root.abs.length) :
    (t.unsubscribe p s).root.wf ∧ (t.unsubscribe p s).count = (t.unsubscribe p s).root.abs.length ∧
      ∀ e, e ∈ (t.unsubscribe p s).root.abs ↔ e ∈ t.root.abs ∧ e ≠ (p, s) := by
  refine ⟨wf_remove p s hwf, ?_, Node.abs_remove' _ p s hwf.1 hwf.2.2⟩
  simp only [T.unsubscribe, hc, (Node.removed t.root p s).perm.length_eq]
  split <;> rfl

structure Inv (t : T) (S : List (Path × Sub)) : Prop where
  wf : t.root.wf
  count : t.count = t.root.abs.length
  mem : ∀ e, e ∈ t.root.abs ↔ e ∈ S
  nodup : S.Nodup

theorem Inv.step {t : T} {S : List (Path × Sub)} (h : Inv t S) (op : Op) :
    Inv (t.step op) (specStep S op) := by
  cases op with
  | sub p s =>
      obtain ⟨hwf, hc, hm⟩ := T.subscribe_sync t p s h.wf h.count
      refine ⟨hwf, hc, fun e => ?_, ?_⟩
      · rw [T.step, hm, h.mem, specStep]
        split
        · next hin => exact or_iff_right_of_imp (· ▸ hin)
        · exact mem_cons.symm
      · rw [specStep]
        split
        · exact h.nodup
        · next hin => exact nodup_cons.mpr ⟨hin, h.nodup⟩
  | unsub p s =>
      obtain ⟨hwf, hc, hm⟩ := T.unsubscribe_sync t p s h.wf h.count
      exact ⟨hwf, hc, fun e => by rw [T.step, hm, h.mem, specStep, mem_filter, bne_iff_ne],
        h.nodup.sublist filter_sublist⟩

/-- for every finite history from the empty trie: the trie is well-formed, holds exactly the
specification's pairs, and its counter is their number -/
theorem history_refines (ops : List Op) :
    (run ops).root.wf ∧ (∀ e, e ∈ (run ops).root.abs ↔ e ∈ specRun ops) ∧
    (run ops).count = (specRun ops).length ∧ (specRun ops).Nodup := by
  have h : Inv (run ops) (specRun ops) :=
    foldl_rel ⟨wf_empty, rfl, fun _ => .rfl, .nil⟩ fun op _ _ _ h => h.step op
  exact ⟨h.wf, h.mem, h.count.trans ((perm_ext_iff_of_nodup (abs_nodup _ h.wf) h.nodup).mpr h.mem).length_eq,
    h.nodup⟩

end Emitter.Trie
