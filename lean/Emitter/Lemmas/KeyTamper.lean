/-
  Lemmas for C12 over Model/KeyTamper.lean: how an XOR mask on the cipher bytes of a v2 / v3 key
  string comes out on the key's fields, and how the three XTEA blocks of a v1 key string decrypt
  independently of each other.
-/
import Emitter.Lemmas.Cipher
import Emitter.Model.KeyTamper
namespace Emitter.KeyTamper
open Emitter Emitter.Cipher

theorem u8_xor_and (a b c : UInt8) : (a ^^^ b) &&& c = (a &&& c) ^^^ (b &&& c) := by
  rw [← UInt8.toNat_inj]
  simp only [UInt8.toNat_and, UInt8.toNat_xor]
  exact Nat.and_xor_distrib_right

/-- XORing in bits `w` that are clear sets them … -/
theorem perm_xor_sets (p w : UInt8) (hw : p &&& w = 0) : (p ^^^ w) &&& w = w := by
  rw [u8_xor_and, hw, UInt8.and_self, UInt8.zero_xor]

/-- … and keeps every set of bits `g` that was held -/
theorem perm_xor_keeps (p g w : UInt8) (hw : p &&& w = 0) (hg : p &&& g = g) : (p ^^^ w) &&& g = g := by
  -- `g ⊆ p` and `p ∩ w = ∅`, so `w ∩ g = ∅`
  have hwg : w &&& g = 0 := by rw [← hg, ← UInt8.and_assoc, UInt8.and_comm w, hw, UInt8.zero_and]
  rw [u8_xor_and, hg, hwg, UInt8.xor_zero]

theorem kb_append_left {a : Bytes} (b : Bytes) {i : Nat} (h : i < a.length) : kb (a ++ b) i = kb a i := by
  simp [kb, List.getD_eq_getElem?_getD, List.getElem?_append_left h]

theorem kb_append_right {a : Bytes} (b : Bytes) {i : Nat} (h : a.length ≤ i) : kb (a ++ b) i = kb b (i - a.length) := by
  simp [kb, List.getD_eq_getElem?_getD, List.getElem?_append_right h]

theorem kb_take (k : Bytes) {n i : Nat} (h : i < n) : kb (k.take n) i = kb k i := by
  simp [kb, List.getD_eq_getElem?_getD, List.getElem?_take_of_lt h]

/-- XOR acts byte by byte; past the end of the mask nothing changes -/
theorem kb_xorBytes {k : Bytes} (m : Bytes) {i : Nat} (h : i < k.length) : kb (xorBytes k m) i = kb k i ^^^ kb m i := by
  induction k generalizing m i with
  | nil => cases h
  | cons a k ih =>
    cases m with
    | nil => simp [xorBytes_nil_right, kb]
    | cons b m =>
      cases i with
      | zero => rfl
      | succ i => exact ih m (by simpa using h)

theorem xorString_b64 (raw m : Bytes) : xorString (b64Encode raw) m = b64Encode (xorBytes raw m) := by
  simp [xorString, decodeKey_b64]

/-- the in-place base64 decoder is injective on strings of whole groups (a key string has eight) -/
theorem base64_injective (s s' r : Bytes) (h : decodeKey s = .ok r) (h' : decodeKey s' = .ok r)
    (h4 : s.length % 4 = 0) (h4' : s'.length % 4 = 0) : s = s' := by
  rw [← b64Encode_decodeKeyAux s 0 r h h4, ← b64Encode_decodeKeyAux s' 0 r h' h4']

theorem authorize_of_decrypt {cs : CipherSpec} (ct : Contract) (now : Int) {s k : Bytes} (ch : Chan) (g : UInt8)
    (hd : decryptKey cs s = .ok k) : authorize cs ct now s ch g = .ok (grants ct now k ch g) := by
  have : ¬ k.length < 24 := by rw [decryptKey_length hd]; omega
  simp [authorize, hd, this]

/-- v3: the salt bytes select the keystream; a mask that leaves them alone passes through, for
every salt-indexed family of keystreams -/
theorem shuffleCrypt_mask (ks : UInt8 → UInt8 → Bytes) (p m : Bytes) :
    shuffleCrypt ks (xorBytes (shuffleCrypt ks p) (0 :: 0 :: m)) = xorBytes p (0 :: 0 :: m) := by
  match p with
  | [] => rfl
  | [a] => simp [shuffleCrypt, xorBytes]
  | a :: b :: r => simp [shuffleCrypt, xorBytes, xorBytes_mask]

theorem decryptRaw_mask (cs : CipherSpec) (hs : isStream cs = true) (p m : Bytes) :
    decryptRaw cs (xorBytes (encryptRaw cs p) (0 :: 0 :: m)) = xorBytes p (0 :: 0 :: m) := by
  cases cs with
  | xtea key => simp [isStream] at hs
  | salsa key nonce => simp [encryptRaw, decryptRaw, xorBytes_mask]
  | shuffle key nonce => simp only [encryptRaw, decryptRaw, shuffleCrypt_mask]

/-- v2 / v3 malleability: a mask (zero on the salt) XORed into an issued string gives the string the broker would
issue for the masked key. What a tampered string authorizes is then `authorize_issued` and a fact about `grants` -/
theorem issued_xor (cs : CipherSpec) (hs : isStream cs = true) (k m : Bytes) :
    xorString (issued cs k) (0 :: 0 :: m) = issued cs (xorBytes k (0 :: 0 :: m)) := by
  -- the masked cipher bytes decrypt to the masked key (`decryptRaw_mask`), so they are its encryption
  have h : xorBytes (encryptRaw cs k) (0 :: 0 :: m) = encryptRaw cs (xorBytes k (0 :: 0 :: m)) := by
    rw [← decryptRaw_mask cs hs k m, encryptRaw_decryptRaw]
  rw [issued, xorString_b64, h, issued]

/-- everything `grants` checks except the permission bit -/
def grantsBase (c : Contract) (now : Int) (k : Bytes) (ch : Chan) : Bool :=
  !expired now k && keyContract k == c.id && validate c k && validateChannel k ch

theorem grants_split (c : Contract) (now : Int) (k : Bytes) (ch : Chan) (g : UInt8) :
    grants c now k ch g = (grantsBase c now k ch && hasPermission k g) := by
  simp only [grants, grantsBase, Bool.and_assoc]
  rw [Bool.and_comm (hasPermission k g)]

theorem grants_iff (c : Contract) (now : Int) (k : Bytes) (ch : Chan) (g : UInt8) :
    grants c now k ch g = true ↔ expired now k = false ∧ keyContract k = c.id ∧ validate c k = true ∧
      hasPermission k g = true ∧ validateChannel k ch = true := by
  simp only [grants, Bool.and_eq_true, Bool.not_eq_true', beq_iff_eq, and_assoc]

theorem grantsBase_congr (c : Contract) (now : Int) (k k' : Bytes) (ch : Chan)
    (he : keyExpire k' = keyExpire k) (hc : keyContract k' = keyContract k) (hm : keyMaster k' = keyMaster k)
    (hs : keySignature k' = keySignature k) (ht : keyTarget k' = keyTarget k) (hp : keyPath k' = keyPath k) :
    grantsBase c now k' ch = grantsBase c now k ch := by
  unfold grantsBase expired validate validateChannel
  rw [he, hc, hm, hs, ht, hp]

theorem xor_tailMask (k new : Bytes) (hk : k.length = 24) (hn : new.length = 12) :
    xorBytes k (tailMask (k.drop 12) new) = k.take 12 ++ new := by
  conv => lhs; arg 1; rw [← List.take_append_drop 12 k]
  rw [tailMask, xorBytes_append _ _ (by simp [hk]), xorBytes_zero, xorBytes_cancel (by simp [hk, hn])]

theorem kb_permMask (w : UInt8) (i : Nat) : kb (permMask w) i = if i = 15 then w else 0 := by
  unfold permMask
  by_cases h : i < 15
  · rw [kb_append_left _ (by simpa using h), if_neg (by omega)]
    simp only [kb, List.getD_eq_getElem?_getD, List.getElem?_replicate]
    split <;> rfl
  · rw [kb_append_right _ (by simpa using h), List.length_replicate]
    by_cases h' : i = 15
    · subst h'; rfl
    · rw [if_neg h', show i - 15 = (i - 16) + 1 by omega]; rfl

theorem grants_permMask (c : Contract) (now : Int) (k : Bytes) (hk : k.length = 24) (ch : Chan) (w g : UInt8) :
    grants c now (xorBytes k (permMask w)) ch g = (grantsBase c now k ch && ((keyPerms k ^^^ w) &&& g == g)) := by
  have hb (i : Nat) (hi : i < 24) (h15 : i ≠ 15) : kb (xorBytes k (permMask w)) i = kb k i := by
    rw [kb_xorBytes _ (hk ▸ hi), kb_permMask, if_neg h15, UInt8.xor_zero]
  have hp : keyPerms (xorBytes k (permMask w)) = keyPerms k ^^^ w := by
    rw [keyPerms, kb_xorBytes _ (by omega), kb_permMask, if_pos rfl]; rfl
  -- none of the six fields `grantsBase` reads touches byte 15
  have hbase : grantsBase c now (xorBytes k (permMask w)) ch = grantsBase c now k ch := by
    apply grantsBase_congr <;> simp only [keyExpire, keyContract, keyMaster, keySignature, keyTarget, keyPath] <;>
      simp (disch := decide) only [hb]
  rw [grants_split, hasPermission, hp, hbase]

/-! `issued cs k` is `b64Encode (encryptRaw cs k)` by definition; `decryptKey_issued` and
`encryptKey_eq` (Lemmas/Cipher.lean) are stated on that string and applied here by `exact` -/

theorem encryptKey_issued (cs : CipherSpec) (k : Bytes) (hk : k.length = 24) : encryptKey cs k = .ok (issued cs k) :=
  encryptKey_eq cs k hk

theorem authorize_issued (cs : CipherSpec) (ct : Contract) (now : Int) {k : Bytes} (hk : k.length = 24) (ch : Chan) (g : UInt8) :
    authorize cs ct now (issued cs k) ch g = .ok (grants ct now k ch g) :=
  authorize_of_decrypt ct now ch g (decryptKey_issued cs hk)

theorem authorize_permMask (cs : CipherSpec) (hs : isStream cs = true) (ct : Contract) (now : Int) (k : Bytes)
    (hk : k.length = 24) (ch : Chan) (w g : UInt8) :
    authorize cs ct now (xorString (issued cs k) (permMask w)) ch g
      = .ok (grantsBase ct now k ch && ((keyPerms k ^^^ w) &&& g == g)) := by
  -- `permMask w` is `0 :: 0 :: …`: the mask is zero on the two salt bytes
  have e : xorString (issued cs k) (permMask w) = issued cs (xorBytes k (permMask w)) := issued_xor cs hs k _
  rw [e, authorize_issued cs ct now (by rw [xorBytes_length, hk]), grants_permMask ct now k hk]

/-- any permission bit `w` the key lacks can be switched on by XORing `w` into cipher byte 15: the
key then grants `w`, and everything it granted before -/
theorem escalation_bit (cs : CipherSpec) (hs : isStream cs = true) (ct : Contract) (now : Int) (k : Bytes)
    (hk : k.length = 24) (ch : Chan) (f w : UInt8) (hf : grants ct now k ch f = true)
    (hw : keyPerms k &&& w = 0) (hw0 : w ≠ 0) :
    authorize cs ct now (issued cs k) ch w = .ok false ∧
    authorize cs ct now (xorString (issued cs k) (permMask w)) ch w = .ok true ∧
    ∀ g, authorize cs ct now (issued cs k) ch g = .ok true →
      authorize cs ct now (xorString (issued cs k) (permMask w)) ch g = .ok true := by
  have hb : grantsBase ct now k ch = true := by
    rw [grants_split, Bool.and_eq_true] at hf; exact hf.1
  refine ⟨?_, ?_, ?_⟩
  · rw [authorize_issued cs ct now hk, grants_split]
    simp [hasPermission, hw, Ne.symm hw0]
  · rw [authorize_permMask cs hs ct now k hk, hb]
    simp [perm_xor_sets (keyPerms k) w hw]
  · intro g hg
    rw [authorize_issued cs ct now hk, grants_split, hb] at hg
    rw [authorize_permMask cs hs ct now k hk, hb]
    have hg' : keyPerms k &&& g = g := by simpa [hasPermission] using hg
    simp [perm_xor_keeps (keyPerms k) g w hw hg']

/-- the recorded finding, for every secret: XOR 0x04 into cipher byte 15 -/
theorem escalation_write (cs : CipherSpec) (hs : isStream cs = true) (ct : Contract) (now : Int) (k : Bytes)
    (hk : k.length = 24) (ch : Chan) (f : UInt8) (hf : grants ct now k ch f = true)
    (hw : keyPerms k &&& allowWrite = 0) :
    authorize cs ct now (issued cs k) ch allowWrite = .ok false ∧
    authorize cs ct now (xorString (issued cs k) (permMask allowWrite)) ch allowWrite = .ok true ∧
    ∀ g, authorize cs ct now (issued cs k) ch g = .ok true →
      authorize cs ct now (xorString (issued cs k) (permMask allowWrite)) ch g = .ok true :=
  escalation_bit cs hs ct now k hk ch f allowWrite hf hw (by decide)

theorem universalTail_fields (p : Bytes) (hp : p.length = 12) :
    keyTarget (p ++ universalTail) = hashEmpty ∧ keyPerms (p ++ universalTail) = 0xFF ∧
    keyPath (p ++ universalTail) = 0 ∧ keyExpire (p ++ universalTail) = 0 := by
  have hb (i : Nat) (hi : 12 ≤ i) : kb (p ++ universalTail) i = kb universalTail (i - 12) := by
    rw [kb_append_right _ (hp ▸ hi), hp]
  -- every field reads bytes 12.. only: `hb` moves the reads into `universalTail`, where they evaluate
  refine ⟨?_, ?_, ?_, ?_⟩ <;> simp (disch := decide) only [keyTarget, keyPerms, keyPath, keyExpire, hb] <;> decide

theorem grants_universal (ct : Contract) (now : Int) (k : Bytes) (hk : k.length = 24) (ch : Chan) (g : UInt8)
    (hv : validate ct k = true) (hc : keyContract k = ct.id) (hn : ch.name ≠ []) :
    grants ct now (k.take 12 ++ universalTail) ch g = true := by
  obtain ⟨ht, hpm, hpa, he⟩ := universalTail_fields (k.take 12) (by simp [hk])
  have hb (i : Nat) (hi : i < 12) : kb (k.take 12 ++ universalTail) i = kb k i := by
    rw [kb_append_left _ (by simp [hk]; omega), kb_take _ hi]
  -- contract id, master id and signature sit in bytes 2..11, which come from `k`
  have hc' : keyContract (k.take 12 ++ universalTail) = ct.id := by
    rw [← hc]; simp (disch := decide) only [keyContract, hb]
  have hv' : validate ct (k.take 12 ++ universalTail) = true := by
    rw [← hv]; simp (disch := decide) only [validate, keyMaster, keySignature, keyContract, hb]
  have hne : ch.name.isEmpty = false := by simpa using hn
  have hff : (255 : UInt8) &&& g = g := UInt8.neg_one_and
  rw [grants_iff]
  exact ⟨by simp [expired, he], hc', hv', by simp [hasPermission, hpm, hff], by simp [validateChannel, hne, hpa, ht]⟩

/-- rewriting bytes 12..23 gives the string the broker would issue for the key with the new tail -/
theorem issued_tail (cs : CipherSpec) (hs : isStream cs = true) (k new : Bytes) (hk : k.length = 24) (hn : new.length = 12) :
    xorString (issued cs k) (tailMask (k.drop 12) new) = issued cs (k.take 12 ++ new) := by
  -- `tailMask _ _` is `0 :: 0 :: …`: the mask is zero on the two salt bytes
  have e : xorString (issued cs k) (tailMask (k.drop 12) new) = issued cs (xorBytes k (tailMask (k.drop 12) new)) :=
    issued_xor cs hs k _
  rw [e, xor_tailMask k new hk hn]

theorem stream_rewrite_tail (cs : CipherSpec) (hs : isStream cs = true) (k new : Bytes) (hk : k.length = 24)
    (hn : new.length = 12) :
    decryptKey cs (xorString (issued cs k) (tailMask (k.drop 12) new)) = .ok (k.take 12 ++ new) := by
  rw [issued_tail cs hs k new hk hn]
  exact decryptKey_issued cs (by simp [hk, hn])

/-- v2 / v3: ONE modification (flip the Write bit of cipher byte 15) escalates under EVERY secret -/
theorem stream_not_resistant :
    ∃ attack : Bytes → Bytes, ∀ cs, isStream cs = true → ¬ NoEscalationBy cs attack := by
  refine ⟨fun e => xorString e (permMask allowWrite), ?_⟩
  intro cs hs hno
  -- the witness: a read-only key on `#/`
  have h := escalation_write cs hs witnessContract 0 witnessWeak rfl witnessChan allowRead (by decide) (by decide)
  have := hno witnessContract 0 witnessWeak rfl witnessChan allowWrite h.2.1
  rw [h.1] at this
  cases this

theorem decBlock_injective (k : XteaKey) (y z y' z' : UInt32) (h : decBlock k y z = decBlock k y' z') : (y, z) = (y', z') := by
  rw [← encBlock_decBlock k y z, ← encBlock_decBlock k y' z', h]

theorem encBlock_injective (k : XteaKey) (y z y' z' : UInt32) (h : encBlock k y z = encBlock k y' z') : (y, z) = (y', z') := by
  rw [← decBlock_encBlock k y z, ← decBlock_encBlock k y' z', h]

theorem mapBlocks_nil (f : UInt32 → UInt32 → UInt32 × UInt32) : mapBlocks f [] = [] := by
  rw [mapBlocks.eq_def]

/-- v1 decryption, block by block: the three blocks are deciphered independently, then bytes
2.. are XORed with the two salt bytes, which come out of block 0 -/
theorem xtea_decrypt_blocks (key : XteaKey) (B0 B1 B2 : Bytes) (h0 : B0.length = 8) (h1 : B1.length = 8) :
    decryptRaw (.xtea key) (B0 ++ B1 ++ B2)
      = whiten (mapBlocks (decBlock key) B0) ++
        whitenTail ((mapBlocks (decBlock key) B0).getD 0 0) ((mapBlocks (decBlock key) B0).getD 1 0) (mapBlocks (decBlock key) B1) ++
        whitenTail ((mapBlocks (decBlock key) B0).getD 0 0) ((mapBlocks (decBlock key) B0).getD 1 0) (mapBlocks (decBlock key) B2) := by
  simp only [decryptRaw]
  rw [List.append_assoc, mapBlocks_append8 _ _ h0, mapBlocks_append8 _ _ h1,
    whiten_append _ (by rw [mapBlocks_length, h0]; omega) (by rw [mapBlocks_length, h0]),
    whitenTail_append _ _ _ _ (by rw [mapBlocks_length, h1]), List.append_assoc]

theorem xtea_encrypt_blocks (key : XteaKey) (A M C : Bytes) (hA : A.length = 8) (hM : M.length = 8) :
    encryptRaw (.xtea key) (A ++ M ++ C)
      = mapBlocks (encBlock key) (whiten A) ++ mapBlocks (encBlock key) (whitenTail (A.getD 0 0) (A.getD 1 0) M) ++
        mapBlocks (encBlock key) (whitenTail (A.getD 0 0) (A.getD 1 0) C) := by
  simp only [encryptRaw]
  rw [List.append_assoc, whiten_append _ (by omega) (by rw [hA]), whitenTail_append _ _ M C (by rw [hM])]
  rw [mapBlocks_append8 _ _ (by rw [whiten_length, hA]), mapBlocks_append8 _ _ (by rw [whitenTail_length, hM])]
  rw [List.append_assoc]

theorem block_0 {X : Bytes} (Y : Bytes) (hX : X.length = 8) : block (X ++ Y) 0 = X := by
  rw [block, Nat.mul_zero, List.drop_zero, List.take_left' hX]

theorem block_1 {X Y : Bytes} (Z : Bytes) (hX : X.length = 8) (hY : Y.length = 8) : block (X ++ Y ++ Z) 1 = Y := by
  rw [block, List.append_assoc, List.drop_left' (by simpa using hX), List.take_left' hY]

theorem block_2 {X Y Z : Bytes} (hX : X.length = 8) (hY : Y.length = 8) (hZ : Z.length = 8) : block (X ++ Y ++ Z) 2 = Z := by
  rw [block, List.drop_left' (by simp [hX, hY]), List.take_of_length_le (by omega)]

/-- cut-and-paste: with equal first 8 key bytes (salt, master id, contract id), block 1 of one
issued key between blocks 0 and 2 of another IS the string the broker would issue for the key
with the middle 8 bytes (signature, bit-path, permissions) of the one and the rest of the other -/
theorem xtea_splice_raw (key : XteaKey) (A M1 C1 M2 C2 : Bytes) (hA : A.length = 8) (hM1 : M1.length = 8)
    (hC1 : C1.length = 8) (hM2 : M2.length = 8) :
    block (encryptRaw (.xtea key) (A ++ M1 ++ C1)) 0 ++ block (encryptRaw (.xtea key) (A ++ M2 ++ C2)) 1 ++
      block (encryptRaw (.xtea key) (A ++ M1 ++ C1)) 2 = encryptRaw (.xtea key) (A ++ M2 ++ C1) := by
  rw [xtea_encrypt_blocks key A M1 C1 hA hM1, xtea_encrypt_blocks key A M2 C2 hA hM2, xtea_encrypt_blocks key A M2 C1 hA hM2]
  have l0 : (mapBlocks (encBlock key) (whiten A)).length = 8 := by rw [mapBlocks_length, whiten_length, hA]
  have lw (s0 s1 : UInt8) {X : Bytes} (h : X.length = 8) : (mapBlocks (encBlock key) (whitenTail s0 s1 X)).length = 8 := by
    rw [mapBlocks_length, whitenTail_length, h]
  rw [List.append_assoc (mapBlocks (encBlock key) (whiten A)), block_0 _ l0, ← List.append_assoc,
    block_1 _ l0 (lw _ _ hM2), block_2 l0 (lw _ _ hM1) (lw _ _ hC1)]

/-- … and the same at the level of key strings -/
theorem xtea_splice (key : XteaKey) (A M1 C1 M2 C2 : Bytes) (hA : A.length = 8) (hM1 : M1.length = 8)
    (hC1 : C1.length = 8) (hM2 : M2.length = 8) :
    spliceString (issued (.xtea key) (A ++ M1 ++ C1)) (issued (.xtea key) (A ++ M2 ++ C2)) = issued (.xtea key) (A ++ M2 ++ C1) := by
  simp only [spliceString, issued, decodeKey_b64]
  rw [xtea_splice_raw key A M1 C1 M2 C2 hA hM1 hC1 hM2]

/-- block locality: whatever follows the first two cipher blocks, the first 16 key bytes (salt,
master, contract, signature, bit-path, permissions) come out the same -/
theorem xtea_prefix_local (key : XteaKey) (P Q Q' : Bytes) (hP : P.length = 16) :
    (decryptRaw (.xtea key) (P ++ Q')).take 16 = (decryptRaw (.xtea key) (P ++ Q)).take 16 := by
  have l0 : (P.take 8).length = 8 := by simp [hP]
  have l1 : (P.drop 8).length = 8 := by simp [hP]
  have hl (s0 s1 : UInt8) : (whiten (mapBlocks (decBlock key) (P.take 8)) ++
      whitenTail s0 s1 (mapBlocks (decBlock key) (P.drop 8))).length = 16 := by
    simp [whiten_length, whitenTail_length, mapBlocks_length, l0, l1]
  rw [← List.take_append_drop 8 P, xtea_decrypt_blocks key _ _ Q' l0 l1, xtea_decrypt_blocks key _ _ Q l0 l1,
    List.take_left' (hl _ _), List.take_left' (hl _ _)]

/-- a key that agrees with `k` on bytes 0..15 is granted only what `k`'s own permission bits and
contract fields allow: all that can differ is target hash and expiry -/
theorem grants_of_take16 (ct : Contract) (now : Int) (k k' : Bytes) (ch : Chan) (g : UInt8) (ht : k'.take 16 = k.take 16)
    (h : grants ct now k' ch g = true) : hasPermission k g = true ∧ validate ct k = true ∧ keyContract k = ct.id := by
  -- permissions, master id, contract id and signature sit in bytes 2..15
  have e (i : Nat) (hi : i < 16) : kb k' i = kb k i := by rw [← kb_take k' hi, ht, kb_take k hi]
  have hp : keyPerms k' = keyPerms k := e 15 (by decide)
  have hm : keyMaster k' = keyMaster k := by simp [keyMaster, e]
  have hc : keyContract k' = keyContract k := by simp [keyContract, e]
  have hs : keySignature k' = keySignature k := by simp [keySignature, e]
  obtain ⟨_, hc', hv', hp', _⟩ := (grants_iff ct now k' ch g).1 h
  exact ⟨by simpa [hasPermission, hp] using hp', by simpa [validate, hm, hc, hs] using hv', hc ▸ hc'⟩

/-- v1: a modification confined to cipher block 2 (characters 22..31 and two bits of character
21 of the key string) yields a key whose first 16 bytes are those of the issued key -/
theorem xtea_block2_confined (key : XteaKey) (k : Bytes) (hk : k.length = 24) (B2' : Bytes) (h2 : B2'.length = 8) :
    ∃ k', decryptKey (.xtea key) (b64Encode ((encryptRaw (.xtea key) k).take 16 ++ B2')) = .ok k' ∧
      k'.length = 24 ∧ k'.take 16 = k.take 16 := by
  have hr : (encryptRaw (.xtea key) k).length = 24 := by rw [encryptRaw_length, hk]
  refine ⟨_, decryptKey_b64 _ (by simp [hr, h2]), by rw [decryptRaw_length]; simp [hr, h2], ?_⟩
  rw [xtea_prefix_local key _ ((encryptRaw (.xtea key) k).drop 16) B2' (by simp [hr]), List.take_append_drop,
    decryptRaw_encryptRaw]

/-- every cipher: a string is accepted for anything only if it decrypts to a key carrying the
contract's master id, contract id and signature (10 check bytes) and the permission asked for -/
theorem accept_requires_check_bytes (cs : CipherSpec) (ct : Contract) (now : Int) (s : Bytes) (ch : Chan) (g : UInt8)
    (h : authorize cs ct now s ch g = .ok true) :
    ∃ k, decryptKey cs s = .ok k ∧ keyMaster k = ct.master ∧ keyContract k = ct.id ∧ keySignature k = ct.sign ∧
      hasPermission k g = true ∧ expired now k = false := by
  cases hd : decryptKey cs s with
  | ok k =>
      rw [authorize_of_decrypt ct now ch g hd] at h
      obtain ⟨he, hc, hv, hp, _⟩ := (grants_iff ct now k ch g).1 (Outcome.ok.inj h)
      simp only [validate, Bool.and_eq_true, beq_iff_eq] at hv
      obtain ⟨⟨⟨hm, hs⟩, _⟩, _⟩ := hv
      exact ⟨k, rfl, hm.symm, hc, hs.symm, hp, he⟩
  | err e | panic w => simp [authorize, hd] at h

end Emitter.KeyTamper
