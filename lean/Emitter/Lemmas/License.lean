/-
  Lemmas about the license model (Model/License.lean): a v1 license string, the base64 of the
  32-byte layout followed by ":1", parses back to the license it was written from.
-/
import Emitter.Model.License
import Emitter.Lemmas.Cipher
namespace Emitter.License
open Emitter Emitter.Cipher

theorem hasSuffix_append (a suf : Bytes) : hasSuffix (a ++ suf) suf = true := by
  simp [hasSuffix]

theorem stdDecode_encode (x : Bytes) : stdDecode (b64Encode x) = .ok x := by
  -- the filter removes nothing: CR and LF are not in the alphabet
  have hf : (b64Encode x).filter (fun c => c != 13 && c != 10) = b64Encode x := by
    rw [List.filter_eq_self]
    intro ch hm
    have hv := b64Encode_valid x ch hm
    simp only [Bool.and_eq_true, bne_iff_ne, ne_eq]
    constructor <;> (rintro rfl; revert hv; decide)
  rw [stdDecode, hf, decodeKeyAux_encode]

theorem parseInner_v1 (body : Nat → Bytes → Outcome V23) {s : Bytes} (h : 3 ≤ s.length) :
    parseInner body (s ++ [58, 49]) = (parseV1 s).map .v1 := by
  have h5 : ¬ (s ++ [58, 49]).length < 5 := by simp; omega
  have ht : (s ++ [58, 49]).take ((s ++ [58, 49]).length - 2) = s := by simp
  simp only [parseInner, h5, if_false, hasSuffix_append, if_true, ht]

/-- `parseV1` reads the 32-byte layout back: 16 key bytes, then user, signature, expiry field `x`, type -/
theorem parseV1_encode (k : Bytes) (u s x t : UInt32) (hk : k.length = 16) :
    parseV1 (b64Encode (k ++ (putBe32 u ++ putBe32 s ++ putBe32 x ++ putBe32 t))) =
      .ok { encKey := k, user := u, sign := s, type := t,
            expires := if 0 < x.toNat then timeOffset + (x.toNat : Int) else (x.toNat : Int) } := by
  rw [parseV1, stdDecode_encode]
  -- reading the four big-endian words back out of `k ++ …` (`k` has 16 bytes); `UInt8.ofNat_uInt32ToNat` is off
  -- because `be32_putBe32` is stated on `UInt8.ofNat x.toNat`, which it rewrites
  simp [hk, putBe32, List.getD_eq_getElem?_getD, -UInt8.ofNat_uInt32ToNat, be32_putBe32]

/-- a v1 license string parses back to the same license, for every expiry the 32-bit field can hold -/
theorem v1_roundtrip_of (body : Nat → Bytes → Outcome V23) (l : V1) (hk : l.encKey.length = 16)
    (he : l.expires = 0 ∨ (timeOffset < l.expires ∧ l.expires < timeOffset + 4294967296)) :
    parse body l.toString = .ok (.v1 l) := by
  obtain ⟨k, u, s, e, t⟩ := l
  simp only at hk he
  generalize hx : UInt32.ofNat (((if e > 0 then e - timeOffset else e) % 4294967296).toNat) = x
  have hs : V1.toString ⟨k, u, s, e, t⟩ = b64Encode (k ++ (putBe32 u ++ putBe32 s ++ putBe32 x ++ putBe32 t)) ++ [58, 49] := by
    have hk16 : (k ++ List.replicate 16 0).take 16 = k := by rw [← hk, List.take_left]
    simp only [V1.toString, hk16, List.append_assoc, hx]
  have hl : (k ++ (putBe32 u ++ putBe32 s ++ putBe32 x ++ putBe32 t)).length = 32 := by simp [hk, putBe32]
  -- the expiry survives the 32-bit field
  have hexp : (if 0 < x.toNat then timeOffset + (x.toNat : Int) else (x.toNat : Int)) = e := by
    subst hx
    have ht : timeOffset = 1262304000 := rfl
    rcases he with rfl | ⟨h1, h2⟩
    · simp
    · simp only [UInt32.toNat_ofNat']
      split <;> omega
  unfold parse
  rw [hs, parseInner_v1 _ (by rw [b64Encode_length, hl]; omega), parseV1_encode k u s x t hk, hexp]
  rfl

end Emitter.License
