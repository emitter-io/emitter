/-
  C05 — lemma library, part 3: the remaining broker steps; the transport, generic in what the payloads satisfy
  (`Link.All`, `Holds`, `Carries`); `Cluster.Holds.step`, the one analysis of `Cluster.step`: an invariant of the
  form `Holds B Q` is kept by every event once it is kept by the broker functions the event calls (`Ev.Notifies`,
  `Ev.Member`, a merge); the routing invariant as its first instance (`cinv_step`), `run_inv` as the one induction
  over a run, and routing at quiescence.
-/
import Emitter.Lemmas.ClusterWalk

namespace Emitter.Cluster
open Emitter Emitter.Lww

/-- a step that changes the state only and keeps the count of every remote (peer, ssid) -/
theorem binv_of_state {b : Broker} (hb : BInv b) {s' : Map} (L : List (ConnId × Ssid)) (hnd : NoDup s') (hnn : NonNeg s')
    (hcnt : ∀ p, p ≠ b.self → ∀ σ, cnt s' p σ = cnt b.state p σ) : BInv { b with locals := L, state := s' } :=
  ⟨hb.selfRange, hnd, hnn, hb.noself, hb.cwf,
    fun p r h σ => (hb.counters p r h σ).trans (hcnt p (ne_of_mget h hb.noself) σ).symm,
    fun p hp h σ => (hcnt p hp σ).trans (hb.absent p hp h σ), hb.routes⟩

theorem cnt_set_self {s : Map} (hs : NoDup s) {self : PeerName} (hself : self < 18446744073709551616)
    (c : ConnId) (σ : Ssid) (v : Val) {p : PeerName} (hp : p ≠ self) (σ' : Ssid) :
    cnt (set s (encKey self c σ) v) p σ' = cnt s p σ' := by
  have hk : keyIs (encKey self c σ) p σ' = false := by
    rw [← Bool.not_eq_true, keyIs_encKey_iff, Nat.mod_eq_of_lt hself]; exact fun h => hp h.2.1
  have := cnt_set s hs (encKey self c σ) v p σ'
  simpa [hk] using this

theorem binv_localSub {b : Broker} (c : ConnId) (σ : Ssid) (now : Int) (hb : BInv b) :
    BInv (localSub b c σ now).broker := by
  unfold localSub
  split
  · exact hb
  · refine binv_of_state hb _ (nodup_add _ _ _ hb.nodup) (nonneg_add _ _ _ hb.nonneg) fun p hp σ' => ?_
    rw [add_eq]
    split
    · exact cnt_set_self hb.nodup hb.selfRange c σ _ hp σ'
    · rfl

theorem binv_localUnsub {b : Broker} (c : ConnId) (σ : Ssid) (now : Int) (hb : BInv b) :
    BInv (localUnsub b c σ now).broker := by
  unfold localUnsub
  split
  · exact hb
  · refine binv_of_state hb _ (nodup_del _ _ hb.nodup) (nonneg_del _ _ hb.nonneg) fun p hp σ' => ?_
    rw [del_eq]
    split
    · exact cnt_set_self hb.nodup hb.selfRange c σ _ hp σ'
    · rfl

theorem localSub_payload_nodup (b : Broker) (c : ConnId) (σ : Ssid) (now : Int) : NoDup (localSub b c σ now).payload := by
  unfold localSub
  split
  · exact nodup_nil
  · exact nodup_singleton _ _

theorem localUnsub_payload_nodup (b : Broker) (c : ConnId) (σ : Ssid) (now : Int) : NoDup (localUnsub b c σ now).payload := by
  unfold localUnsub
  split
  · exact nodup_nil
  · exact nodup_singleton _ _

theorem binv_closeConn (b : Broker) (c : ConnId) (now : Int) (acc : List NotifyRes) (hb : BInv b) :
    BInv (closeConn b c now acc).1 :=
  List.foldlRecOn (motive := fun st : Broker × List NotifyRes => BInv st.1) _ _ hb
    fun _ h _ _ => binv_localUnsub _ _ _ h

theorem binv_mset_active {b : Broker} {p : PeerName} {r : PeerRec} (a : Bool) (hb : BInv b)
    (hp : mget b.members p = some r) :
    BInv { b with members := mset b.members p { r with active := a } } := by
  refine binv_frame hb p (some { r with active := a }) rfl rfl (hm := fun q => ?_) (hr := fun _ _ _ _ => Iff.rfl)
    (hsome := fun r' hr' => ?_) (hnone := fun h => nomatch h)
  · show mget (mset _ _ _) q = _
    rw [mget_mset, hp]; rfl
  · cases hr'
    exact ⟨ne_of_mget hp hb.noself, hb.cwf p r hp, fun σ => ⟨hb.counters p r hp σ, hb.routes_of hp σ⟩⟩

theorem binv_touch {b : Broker} (p : PeerName) (hb : BInv b) : BInv (touch b p) := by
  unfold touch
  split
  · exact hb
  · rename_i hps
    have hps : p ≠ b.self := by simpa using hps
    split
    · rename_i r hr
      exact binv_mset_active true hb hr
    · rename_i hn
      refine binv_frame hb p (some { active := true, gen := b.nextGen, subs := [] }) rfl rfl
        (hm := fun q => mget_append_new q _ hn) (hr := fun _ _ _ _ => Iff.rfl)
        (hsome := fun r' hr' => ?_) (hnone := fun h => nomatch h)
      cases hr'
      exact ⟨hps, cwf_nil, fun σ => ⟨(hb.absent p hps hn σ).symm,
        fun g => ⟨fun h => absurd h (hb.no_route hn σ g), fun h => absurd h.2 (Nat.lt_irrefl 0)⟩⟩⟩

theorem binv_expire {b : Broker} (p : PeerName) (hb : BInv b) : BInv (expire b p) := by
  unfold expire
  split
  · rename_i r hr
    exact binv_mset_active false hb hr
  · exact hb

theorem offline_none (b : Broker) (p : PeerName) (now : Int) (h : mget b.members p = none) :
    offline b p now = (b, []) := by
  unfold offline; rw [h]

/-- garbage collection that raises no flag: the peer held no active entry and is only taken off the memberlist -/
theorem offline_some {b : Broker} {p : PeerName} {now : Int} {r : PeerRec} (h : mget b.members p = some r)
    (hf : (offline b p now).2 = []) :
    activeOf b.state p = [] ∧ (offline b p now).1 = { b with members := b.members.filter (fun e => e.1 != p) } := by
  unfold offline at hf ⊢
  rw [h] at hf ⊢
  cases ha : activeOf b.state p with
  | nil => simp only [List.foldl_nil, and_self]
  | cons x xs => rw [ha] at hf; simp at hf

theorem binv_offline {b : Broker} (p : PeerName) (now : Int) (hb : BInv b) (hf : (offline b p now).2 = []) :
    BInv (offline b p now).1 := by
  cases hm : mget b.members p with
  | none => rw [offline_none b p now hm]; exact hb
  | some r =>
    obtain ⟨ha, e⟩ := offline_some hm hf
    rw [e]
    have hz : ∀ σ, cnt b.state p σ = 0 := cnt_zero_of_activeOf_nil ha
    refine binv_frame hb p none rfl rfl (hm := mget_filter_ne b.members p) (hr := fun _ _ _ _ => Iff.rfl)
      (hsome := fun _ h => nomatch h) (hnone := fun _ σ => ⟨fun _ => hz σ, fun g h => ?_⟩)
    have := ((hb.routes_of hm σ g).1 h).2
    rw [hb.counters p r hm σ, hz σ] at this
    exact Nat.lt_irrefl 0 this

/-- the only flag that does not concern the routing invariant (it concerns whether a broker's own
entries tell the truth about its clients) -/
def clockFlag : Flag := "C05.clock-not-advancing"

theorem routingFlag_ne_clock {f : Flag} (h : routingFlag f) : f ≠ clockFlag := by
  rcases h with h | h | h | h <;> subst h <;> simp [clockFlag]

theorem flags_nil_of_clock {fs : List Flag} (h1 : ∀ f ∈ fs, routingFlag f) (h2 : ∀ f ∈ fs, f = clockFlag) : fs = [] :=
  List.eq_nil_iff_forall_not_mem.2 fun f hf => routingFlag_ne_clock (h1 f hf) (h2 f hf)

theorem offline_flags (b : Broker) (p : PeerName) (now : Int) : ∀ f ∈ (offline b p now).2, routingFlag f := by
  unfold offline
  split
  · intro f hf; cases hf
  · intro f hf
    rcases List.mem_append.1 hf with h | h <;> split at h
    · cases h
    · exact Or.inr (Or.inr (Or.inl (List.mem_singleton.1 h)))
    · exact Or.inr (Or.inr (Or.inr (List.mem_singleton.1 h)))
    · cases h

theorem binv_mergeStep {o : WalkOrder} {b : Broker} {m : Map} (hb : BInv b) (hm : NoDup m)
    (hf : ∀ f ∈ (mergeStep o b m).flags, f = clockFlag) : BInv (mergeStep o b m).broker := by
  refine binv_mergeOrd hb hm ?_ (flags_nil_of_clock (mergeOrd_keeps _ b m).flags hf)
  cases o
  · exact List.Perm.refl _
  · exact List.reverse_perm _
  · exact List.filter_append_perm _ _
  · exact List.Perm.trans List.perm_append_comm (List.filter_append_perm _ _)

def Wire.payload : Wire → Map
  | .gossip m => m
  | .bcast _ m => m

/-- everything queued or in flight on a link has no repeated key: `Link.All NoDup` with the fields written out
(`linkInv_iff`) -/
structure LinkInv (l : Link) : Prop where
  gossip : ∀ m, l.gossip = some (.data m) → NoDup m
  bcasts : ∀ e ∈ l.bcasts, NoDup e.2
  wire : ∀ w ∈ l.wire, NoDup w.payload

structure CInv (c : Cluster) : Prop where
  brokers : ∀ b ∈ c.brokers, BInv b
  links : ∀ e ∈ c.links, LinkInv e.2

theorem broker?_mem {c : Cluster} {p : PeerName} {b : Broker} (h : c.broker? p = some b) : b ∈ c.brokers :=
  List.mem_of_find?_eq_some h

/-! ### what holds of every map queued or in flight

The routing invariant needs payloads without repeated keys, the own-truth invariant needs payloads dominated by
their owners' states; the transport treats both alike: it copies, merges and moves maps. `Q` stands for either. -/

/-- `Q` holds of every map queued or in flight on the link -/
structure Link.All (Q : Map → Prop) (l : Link) : Prop where
  gossip : ∀ m, l.gossip = some (.data m) → Q m
  bcasts : ∀ e ∈ l.bcasts, Q e.2
  wire : ∀ w ∈ l.wire, Q w.payload

section
variable {Q : Map → Prop}

theorem Link.All.empty (u : Bool) (g : Option Pending) (hg : ∀ m, g ≠ some (.data m)) :
    Link.All Q { up := u, gossip := g } :=
  ⟨fun m h => absurd h (hg m), fun _ h => (nomatch h), fun _ h => (nomatch h)⟩

theorem Link.All.mono {Q' : Map → Prop} (hQ : ∀ m, Q m → Q' m) {l : Link} (hl : l.All Q) : l.All Q' :=
  ⟨fun m hm => hQ m (hl.gossip m hm), fun e he => hQ _ (hl.bcasts e he), fun w hw => hQ _ (hl.wire w hw)⟩

theorem Pending.payload_all {cur : Map} (hcur : Q cur) (g : Pending) (hg : ∀ m, g = .data m → Q m) :
    Q (g.payload cur) := by
  cases g with
  | complete => exact hcur
  | data m => exact hg m rfl

theorem Link.All.send (hQ : ∀ a b, Q a → Q b → Q (merge a b).1) {l : Link} {cur : Map} (hcur : Q cur) {d : Pending}
    (hl : l.All Q) (hd : ∀ m, d = .data m → Q m) : (l.send cur d).All Q := by
  unfold Link.send
  split
  · exact hl
  · refine ⟨fun m hm => ?_, hl.bcasts, hl.wire⟩
    cases hg : l.gossip with
    | none => rw [hg] at hm; exact hd m (Option.some.inj hm)
    | some g =>
      rw [hg] at hm
      cases Option.some.inj hm
      exact hQ _ _ (Pending.payload_all hcur g fun m' h' => hl.gossip m' (by rw [hg, h'])) (Pending.payload_all hcur d hd)

theorem Link.All.broadcast (hQ : ∀ a b, Q a → Q b → Q (merge a b).1) {l : Link} (src : PeerName) {m : Map}
    (hl : l.All Q) (hm : Q m) : (l.broadcast src m).All Q := by
  unfold Link.broadcast
  split
  · exact hl
  · split
    · exact ⟨hl.gossip, List.forall_mem_append.2 ⟨hl.bcasts, List.forall_mem_singleton.2 hm⟩, hl.wire⟩
    · rename_i old ho
      exact ⟨hl.gossip, forall_replace (P := fun e : PeerName × Map => Q e.2) hl.bcasts
        (hQ _ _ (hl.bcasts _ (mem_of_lookup ho)) hm), hl.wire⟩

end

/-- A cluster invariant in two parts: `B` of the list of brokers, and `Q bs` of every map queued or in flight.
`CInv` and `OInv` are both of this form. -/
structure Cluster.Holds (B : List Broker → Prop) (Q : List Broker → Map → Prop) (c : Cluster) : Prop where
  brokers : B c.brokers
  links : ∀ e ∈ c.links, e.2.All (Q c.brokers)

/-- what the transport needs of the two parts: `Q` is kept by `Merge`, and the states of the brokers have it -/
structure Carries (B : List Broker → Prop) (Q : List Broker → Map → Prop) : Prop where
  merge : ∀ bs a b, Q bs a → Q bs b → Q bs (merge a b).1
  state : ∀ bs, B bs → ∀ x ∈ bs, Q bs x.state
  nil : ∀ bs, B bs → Q bs []

namespace Cluster.Holds
variable {B : List Broker → Prop} {Q : List Broker → Map → Prop} {c : Cluster}

theorem stateOf (K : Carries B Q) (h : c.Holds B Q) (a : PeerName) : Q c.brokers (c.stateOf a) := by
  unfold Cluster.stateOf
  cases hb : c.broker? a with
  | none => exact K.nil _ h.brokers
  | some x => exact K.state _ h.brokers x (broker?_mem hb)

theorem link (h : c.Holds B Q) (a b : PeerName) : (c.link a b).All (Q c.brokers) := by
  unfold Cluster.link
  cases hl : c.links.lookup (a, b) with
  | none => exact .empty false none (fun _ h => nomatch h)
  | some l => exact h.links _ (mem_of_lookup hl)

theorem setLink (h : c.Holds B Q) (a b : PeerName) {l : Link} (hl : l.All (Q c.brokers)) :
    (c.setLink a b l).Holds B Q :=
  ⟨h.brokers, forall_replace (P := fun e : (PeerName × PeerName) × Link => e.2.All (Q c.brokers)) h.links hl⟩

theorem sendFrom (K : Carries B Q) (h : c.Holds B Q) (a : PeerName) {d : Pending} (hd : ∀ m, d = .data m → Q c.brokers m)
    (to : List PeerName) : (c.sendFrom a d to).Holds B Q := by
  unfold Cluster.sendFrom
  induction to generalizing c with
  | nil => exact h
  | cons x to ih => exact ih (h.setLink a x ((h.link a x).send (K.merge _) (h.stateOf K a) hd)) hd

theorem broadcastFrom (K : Carries B Q) (h : c.Holds B Q) (a src : PeerName) {m : Map} (hm : Q c.brokers m)
    (to : List PeerName) : (c.broadcastFrom a src m to).Holds B Q := by
  unfold Cluster.broadcastFrom
  induction to generalizing c with
  | nil => exact h
  | cons x to ih => exact ih (h.setLink a x ((h.link a x).broadcast (K.merge _) src hm)) hm

theorem setBroker (h : c.Holds B Q) {b' : Broker} (hB : B (c.setBroker b').brokers)
    (hmono : ∀ m, Q c.brokers m → Q (c.setBroker b').brokers m) : (c.setBroker b').Holds B Q :=
  ⟨hB, fun e he => (h.links e he).mono hmono⟩

theorem applyNotify (K : Carries B Q) (h : c.Holds B Q) (a : PeerName) {r : NotifyRes}
    (hB : B (c.setBroker r.broker).brokers) (hmono : ∀ m, Q c.brokers m → Q (c.setBroker r.broker).brokers m)
    (hp : Q (c.setBroker r.broker).brokers r.payload) : (c.applyNotify a r).Holds B Q := by
  unfold Cluster.applyNotify
  simp only
  split
  · exact h.setBroker hB hmono
  · exact (h.setBroker hB hmono).broadcastFrom K a a hp _

/-- the head of a wire leaves it, or stays to be delivered again -/
theorem dropWire (h : c.Holds B Q) {a b : PeerName} {w : Wire} {rest : List Wire} (hw : (c.link a b).wire = w :: rest)
    (keep : Bool) : Q c.brokers w.payload ∧
      (if keep then c else c.setLink a b { c.link a b with wire := rest }).brokers = c.brokers ∧
      (if keep then c else c.setLink a b { c.link a b with wire := rest }).Holds B Q := by
  have hl := h.link a b
  refine ⟨hl.wire w (hw ▸ List.mem_cons_self), by cases keep <;> rfl, ?_⟩
  cases keep
  · exact h.setLink a b ⟨hl.gossip, hl.bcasts, fun x hx => hl.wire x (hw ▸ List.mem_cons_of_mem _ hx)⟩
  · exact h

end Cluster.Holds

theorem setLink_brokers (c : Cluster) (a b : PeerName) (l : Link) : (c.setLink a b l).brokers = c.brokers := rfl

/-- a fold that only sets links (`sendFrom`, `broadcastFrom` are such) changes neither the brokers nor the mode -/
theorem foldl_setLink_same (c : Cluster) (a : PeerName) (f : Cluster → PeerName → Link) (to : List PeerName) :
    (to.foldl (fun c x => c.setLink a x (f c x)) c).brokers = c.brokers ∧
      (to.foldl (fun c x => c.setLink a x (f c x)) c).mode = c.mode :=
  List.foldlRecOn (motive := fun c' : Cluster => c'.brokers = c.brokers ∧ c'.mode = c.mode) to _ ⟨rfl, rfl⟩
    fun _ h _ _ => h

theorem sendFrom_brokers (c : Cluster) (a : PeerName) (d : Pending) (to : List PeerName) :
    (c.sendFrom a d to).brokers = c.brokers := (foldl_setLink_same c a _ to).1

theorem applyNotify_same (c : Cluster) (a : PeerName) (r : NotifyRes) :
    (c.applyNotify a r).brokers = (c.setBroker r.broker).brokers ∧ (c.applyNotify a r).mode = c.mode := by
  unfold Cluster.applyNotify
  simp only
  split
  · exact ⟨rfl, rfl⟩
  · exact foldl_setLink_same ..

/-- the results of closing a connection, as a plain recursion -/
def unsubAll (cn : ConnId) (now : Int) : List (ConnId × Ssid) → Broker → List NotifyRes
  | [], _ => []
  | e :: l, b => localUnsub b cn e.2 now :: unsubAll cn now l (localUnsub b cn e.2 now).broker

theorem closeConn_eq (b : Broker) (cn : ConnId) (now : Int) :
    (closeConn b cn now []).2 = unsubAll cn now (b.locals.filter (fun e => e.1 == cn)) b := by
  have h : ∀ (l : List (ConnId × Ssid)) (b : Broker) (acc : List NotifyRes),
      (l.foldl (fun (st : Broker × List NotifyRes) e =>
        let r := localUnsub st.1 cn e.2 now
        (r.broker, st.2 ++ [r])) (b, acc)).2 = acc ++ unsubAll cn now l b := by
    intro l
    induction l with
    | nil => intro b acc; simp [unsubAll]
    | cons e l ih => intro b acc; rw [List.foldl_cons, ih]; simp [unsubAll]
  unfold closeConn
  rw [h, List.nil_append]

theorem localUnsub_self (b : Broker) (cn : ConnId) (σ : Ssid) (now : Int) : (localUnsub b cn σ now).broker.self = b.self := by
  unfold localUnsub; split <;> rfl

/-- closing a connection, for any invariant of this form: each result is applied to a cluster in which the broker
of the result before it stands -/
theorem Cluster.Holds.unsubAll {B : List Broker → Prop} {Q : List Broker → Map → Prop} {F : Flag → Prop}
    (a : PeerName) (cn : ConnId) (now : Int)
    (hstep : ∀ (c0 : Cluster) (b : Broker) (σ : Ssid), c0.Holds B Q → b ∈ c0.brokers →
      (∀ f ∈ (localUnsub b cn σ now).flags, F f) → (c0.applyNotify a (localUnsub b cn σ now)).Holds B Q)
    {l : List (ConnId × Ssid)} {b : Broker} {c : Cluster} (h : c.Holds B Q) (hb : b ∈ c.brokers)
    (hf : ∀ r ∈ unsubAll cn now l b, ∀ f ∈ r.flags, F f) :
    ((unsubAll cn now l b).foldl (fun c r => c.applyNotify a r) c).Holds B Q := by
  induction l generalizing b c with
  | nil => exact h
  | cons e l ih =>
    refine ih (hstep c b e.2 h hb (hf _ List.mem_cons_self)) ?_ (fun r hr => hf r (List.mem_cons_of_mem _ hr))
    rw [(applyNotify_same ..).1]
    exact (mem_replaceKey Broker.self).mpr (.inl ⟨rfl, b, hb, (localUnsub_self ..).symm⟩)

theorem mergeStep_delta_eq {o : WalkOrder} {br : Broker} {m d : Map} (h : (mergeStep o br m).delta = some d) :
    d = (merge br.state m).2 := by
  have e : (mergeStep o br m).delta = if (merge br.state m).2.isEmpty then none else some (merge br.state m).2 := rfl
  rw [e] at h
  split at h
  · cases h
  · exact (Option.some.inj h).symm

/-- the `Notify` results an event can produce at broker `b` (`a`: the broker's name, under which the payload is
broadcast) -/
inductive Ev.Notifies : Ev → PeerName → Broker → NotifyRes → Prop
  | sub (a cn σ now b) : Notifies (.sub a cn σ now) a b (localSub b cn σ now)
  | unsub (a cn σ now b) : Notifies (.unsub a cn σ now) a b (localUnsub b cn σ now)
  | close (a cn now σ b) : Notifies (.close a cn now) a b (localUnsub b cn σ now)

/-- the change of the memberlist an event makes at broker `b` (named `a` in the event), with the flags it raises -/
inductive Ev.Member : Ev → Broker → Broker × List Flag → Prop
  | touch (a p b) : Member (.touch a p) b (Cluster.touch b p, [])
  | expire (a p b) : Member (.expire a p) b (Cluster.expire b p, [])
  | offline (a p now b) : Member (.offline a p now) b (Cluster.offline b p now)

/-- The one analysis of `Cluster.step`. An event changes the brokers through at most one of three broker functions; for
each the caller shows that the invariant survives putting the function's result in place. `hnotify`: a `Notify`; asked
of every cluster `c0` and every `b ∈ c0.brokers`, because a close applies one result after the other, each to the
cluster the one before left (membership survives that, `broker? a = some b` does not). `hmember`: a memberlist change,
at `c`. `hmerge`: the merge of a delivered payload `m`, at `c0`, which is `c` with the head of the wire gone (or kept,
for a duplicate); it also hands back `Q` of the delta, which is relayed. Buckets, wires and links are the transport's
and need `K` only. `F` is what the caller knows of the flags of the step; each hypothesis gets it for the flags of its
own function. An invariant of the brokers alone is the instance `Q := fun _ _ => True`. -/
theorem Cluster.Holds.step {B : List Broker → Prop} {Q : List Broker → Map → Prop} (K : Carries B Q) {F : Flag → Prop}
    {c : Cluster} (h : c.Holds B Q) (e : Ev) (hf : ∀ f ∈ (c.step e).2.flags, F f)
    (hnotify : ∀ (c0 : Cluster) (a : PeerName) (b : Broker) (r : NotifyRes), c0.Holds B Q → b ∈ c0.brokers →
      e.Notifies a b r → (∀ f ∈ r.flags, F f) → (c0.applyNotify a r).Holds B Q)
    (hmember : ∀ (b : Broker) (r : Broker × List Flag), b ∈ c.brokers → e.Member b r → (∀ f ∈ r.2, F f) →
      (c.setBroker r.1).Holds B Q)
    (hmerge : ∀ (c0 : Cluster) (br : Broker) (o : WalkOrder) (m : Map), c0.Holds B Q → br ∈ c0.brokers →
      Q c0.brokers m → (∀ f ∈ (mergeStep o br m).flags, F f) →
      (c0.setBroker (mergeStep o br m).broker).Holds B Q ∧
        Q (c0.setBroker (mergeStep o br m).broker).brokers (merge br.state m).2) :
    (c.step e).1.Holds B Q := by
  -- `hf` speaks of `c.step e` as the goal does; `fun_cases` rewrites the goal only, so `hf` goes through as a premise
  revert hf
  fun_cases Cluster.step c e <;> intro hf
  -- the leaves are those of `Cluster.step`, numbered by `fun_cases` in the order of its branches (an event added at the
  -- end of `Ev` renumbers nothing); `case` names a leaf's hypotheses from the last one backwards, so each list runs to
  -- the end of the leaf's context, unused `let`s included. Named are the leaves in which the cluster changes, each with
  -- its event and branch
  -- sub at a known broker
  case case2 a cn σ now b hb r => exact hnotify c a b _ h (broker?_mem hb) (.sub ..) hf
  -- unsub at a known broker
  case case4 a cn σ now b hb r => exact hnotify c a b _ h (broker?_mem hb) (.unsub ..) hf
  -- close at a known broker: one `localUnsub` per subscription of the connection (`closeConn_eq`)
  case case6 a cn now b hb rs =>
    have hf' : ∀ r ∈ (closeConn b cn now []).2, ∀ f ∈ r.flags, F f :=
      fun r hr f hfr => hf f (List.mem_flatMap.2 ⟨r, hr, hfr⟩)
    show ((closeConn b cn now []).2.foldl _ c).Holds B Q
    rw [closeConn_eq] at hf' ⊢
    exact h.unsubAll a cn now (fun c0 b0 σ h0 hb0 hf0 => hnotify c0 a b0 _ h0 hb0 (.close ..) hf0)
      (broker?_mem hb) hf'
  -- pick, gossip bucket filled: it goes on the wire
  case case8 a b src l hup g hg m =>
    have hl := h.link a b
    have hm : Q c.brokers m := Pending.payload_all (h.stateOf K a) g fun m' h' => hl.gossip m' (by rw [hg, h'])
    exact h.setLink a b
      { gossip := fun _ h' => nomatch h'
        bcasts := hl.bcasts
        wire := List.forall_mem_append.2 ⟨hl.wire, List.forall_mem_singleton.2 hm⟩ }
  -- pick, gossip bucket empty: the broadcast bucket of `src` goes on the wire
  case case9 a b src l hup hg m hm =>
    have hl := h.link a b
    exact h.setLink a b
      { gossip := hl.gossip
        bcasts := fun e he => hl.bcasts e (List.mem_filter.1 he).1
        wire := List.forall_mem_append.2 ⟨hl.wire, List.forall_mem_singleton.2 (hl.bcasts _ (mem_of_lookup hm))⟩ }
  -- deliver, a gossip message: the head of the wire leaves it (`dropWire`), is merged at `br`, the delta is sent on
  case case11 a b relay keep o l rest br hb c0 to m r c1 c2 hw =>
    obtain ⟨hwq, hb0, h0⟩ := h.dropWire hw keep
    obtain ⟨h1, hd⟩ := hmerge c0 br o m h0 (hb0 ▸ broker?_mem hb) (hb0 ▸ hwq) hf
    show c2.Holds B Q
    cases hd' : r.delta with
    | none => simp only [c2, hd']; exact h1
    | some d =>
      simp only [c2, hd']
      exact h1.sendFrom K b (fun m' h' => by cases h'; exact mergeStep_delta_eq hd' ▸ hd) _
  -- deliver, a broker's own broadcast coming back: dropped
  case case12 a b relay keep o l rest br hb c0 src m hsrc hw => exact (h.dropWire hw keep).2.2
  -- deliver, a broadcast of another broker: merged at `br`, the delta is broadcast on
  case case13 a b relay keep o l rest br hb c0 to src m hsrc r c1 c2 hw =>
    obtain ⟨hwq, hb0, h0⟩ := h.dropWire hw keep
    obtain ⟨h1, hd⟩ := hmerge c0 br o m h0 (hb0 ▸ broker?_mem hb) (hb0 ▸ hwq) hf
    show c2.Holds B Q
    cases hd' : r.delta with
    | none => simp only [c2, hd']; exact h1
    | some d =>
      simp only [c2, hd']
      exact h1.broadcastFrom K b src (mergeStep_delta_eq hd' ▸ hd) _
  -- gossip: the complete state is queued
  case case15 a b => exact h.setLink a b ((h.link a b).send (K.merge _) (h.stateOf K a) (fun m hm => nomatch hm))
  -- linkDown: both directions emptied
  case case16 a b c1 =>
    exact (h.setLink a b (.empty false none (fun _ h' => nomatch h'))).setLink b a
      (.empty false none (fun _ h' => nomatch h'))
  -- linkUp of a link that was down: both directions queue the complete state
  case case18 a b hn c1 =>
    exact (h.setLink a b (.empty true _ (fun _ h' => by cases h'))).setLink b a
      (.empty true _ (fun _ h' => by cases h'))
  -- touch at a known broker
  case case19 a p br hb => exact hmember br _ (broker?_mem hb) (.touch ..) (fun _ h' => nomatch h')
  -- expire at a known broker
  case case21 a p br hb => exact hmember br _ (broker?_mem hb) (.expire ..) (fun _ h' => nomatch h')
  -- offline at a known broker
  case case23 a p now br hb r => exact hmember br _ (broker?_mem hb) (.offline ..) hf
  -- the other ten: unknown broker, pick on a link that is down or has nothing queued, nothing on the wire, linkUp
  -- refused; the result is `c`
  all_goals exact h

theorem linkInv_iff (l : Link) : LinkInv l ↔ l.All NoDup :=
  ⟨fun h => ⟨h.gossip, h.bcasts, h.wire⟩, fun h => ⟨h.gossip, h.bcasts, h.wire⟩⟩

theorem cinv_iff (c : Cluster) : CInv c ↔ c.Holds (fun bs => ∀ b ∈ bs, BInv b) (fun _ => NoDup) :=
  ⟨fun h => ⟨h.brokers, fun e he => (linkInv_iff _).1 (h.links e he)⟩,
    fun h => ⟨h.brokers, fun e he => (linkInv_iff _).2 (h.links e he)⟩⟩

theorem carries_nodup : Carries (fun bs => ∀ b ∈ bs, BInv b) (fun _ => NoDup) :=
  ⟨fun _ a b ha _ => nodup_merge a b ha, fun _ h x hx => (h x hx).nodup, fun _ _ => nodup_nil⟩

theorem mem_init_brokers {mode : Trie.Mode} {n : Nat} {x : Broker} (hx : x ∈ (Cluster.init mode n).brokers) :
    ∃ i, i < n ∧ x = { self := i + 1 } := by
  simp only [Cluster.init, List.mem_map, List.mem_range] at hx
  obtain ⟨p, ⟨i, hi, rfl⟩, rfl⟩ := hx
  exact ⟨i, hi, rfl⟩

theorem init_links (Q : Map → Prop) (mode : Trie.Mode) (n : Nat) : ∀ e ∈ (Cluster.init mode n).links, e.2.All Q := by
  intro e he
  simp only [Cluster.init, List.mem_flatMap, List.mem_filterMap, List.mem_map] at he
  obtain ⟨a, _, b, _, h⟩ := he
  split at h
  · cases h
  · cases h; exact .empty true none (fun _ h => nomatch h)

theorem cinv_init (mode : Trie.Mode) (n : Nat) (hn : n < 18446744073709551615) : CInv (Cluster.init mode n) := by
  refine (cinv_iff _).2 ⟨fun b hb => ?_, init_links _ mode n⟩
  obtain ⟨i, hi, rfl⟩ := mem_init_brokers hb
  exact binv_init _ (by show i + 1 < 18446744073709551616; omega)

theorem cinv_step (c : Cluster) (e : Ev) (hc : CInv c) (hf : ∀ f ∈ (c.step e).2.flags, f = clockFlag) :
    CInv (c.step e).1 := by
  have K := carries_nodup
  rw [cinv_iff] at hc ⊢
  refine hc.step K e hf (hnotify := fun c0 a b r h0 hb hr _ => ?_) (hmember := fun b r hb hr hfl => ?_)
    (hmerge := fun c0 br o m h0 hbr hm hfl => ?_)
  · have hb' := h0.brokers b hb
    cases hr with
    | sub a cn σ now b =>
      exact h0.applyNotify K a (forall_replace h0.brokers (binv_localSub cn σ now hb')) (fun _ => id)
        (localSub_payload_nodup ..)
    | unsub a cn σ now b | close a cn now σ b =>
      exact h0.applyNotify K a (forall_replace h0.brokers (binv_localUnsub cn σ now hb')) (fun _ => id)
        (localUnsub_payload_nodup ..)
  · have hb' := hc.brokers b hb
    refine hc.setBroker (forall_replace hc.brokers ?_) (fun _ => id)
    cases hr with
    | touch a p b => exact binv_touch p hb'
    | expire a p b => exact binv_expire p hb'
    | offline a p now b => exact binv_offline p now hb' (flags_nil_of_clock (offline_flags b p now) hfl)
  · exact ⟨h0.setBroker (forall_replace h0.brokers (binv_mergeStep (h0.brokers br hbr) hm hfl)) (fun _ => id),
      delta_nodup br.state m hm⟩

/-- a run is its first step followed by the run from there (the accumulator of `run` is only a way
of writing this) -/
theorem run_cons (c : Cluster) (e : Ev) (evs : List Ev) :
    c.run (e :: evs) = (((c.step e).1.run evs).1, (c.step e).2.flags ++ ((c.step e).1.run evs).2) := by
  have h : ∀ (evs : List Ev) (c : Cluster) (acc : List Flag),
      evs.foldl (fun (acc : Cluster × List Flag) e => let r := acc.1.step e; (r.1, acc.2 ++ r.2.flags)) (c, acc) =
        ((c.run evs).1, acc ++ (c.run evs).2) := by
    intro evs
    induction evs with
    | nil => intro c acc; simp [Cluster.run]
    | cons e evs ih =>
      intro c acc
      rw [Cluster.run, List.foldl_cons, List.foldl_cons, ih, ih]
      simp
  rw [Cluster.run, List.foldl_cons, h]
  simp

/-- the induction principle of `run`: what holds at the start and is kept by every step of an
admissible event (`G`) that raises only admissible flags (`F`) holds at the end -/
theorem run_inv {P : Cluster → Prop} {G : Ev → Prop} {F : Flag → Prop}
    (hstep : ∀ c e, P c → G e → (∀ f ∈ (c.step e).2.flags, F f) → P (c.step e).1)
    (evs : List Ev) (c : Cluster) (hc : P c) (hg : ∀ e ∈ evs, G e) (hf : ∀ f ∈ (c.run evs).2, F f) :
    P (c.run evs).1 := by
  induction evs generalizing c with
  | nil => exact hc
  | cons e evs ih =>
    rw [run_cons] at hf ⊢
    exact ih _ (hstep c e hc (hg e List.mem_cons_self) (fun f h => hf f (List.mem_append_left _ h)))
      (fun x hx => hg x (List.mem_cons_of_mem _ hx)) (fun f h => hf f (List.mem_append_right _ h))

theorem cinv_run {c : Cluster} (evs : List Ev) (hc : CInv c) (hf : ∀ f ∈ (c.run evs).2, f = clockFlag) :
    CInv (c.run evs).1 :=
  run_inv (G := fun _ => True) (fun c e hc _ => cinv_step c e hc) evs c hc (fun _ _ => trivial) hf

theorem step_mode (c : Cluster) (e : Ev) : (c.step e).1.mode = c.mode := by
  fun_cases Cluster.step c e
  -- the case numbers are those of `Cluster.Holds.step`
  -- sub, unsub at a known broker
  case case2 | case4 => exact (applyNotify_same ..).2
  -- close at a known broker
  case case6 a cn now b hb rs =>
    exact List.foldlRecOn (motive := fun c' : Cluster => c'.mode = c.mode) rs.2 _ rfl
      fun c' h r _ => (applyNotify_same c' a r).2.trans h
  -- deliver, a gossip message or a broadcast of another broker: the head of the wire is dropped or kept, the broker
  -- replaced, the delta sent on
  case case11 a b relay keep o l rest br hb c0 to m r c1 c2 hw
    | case13 a b relay keep o l rest br hb c0 to src m hsrc r c1 c2 hw =>
    have h0 : c0.mode = c.mode := by cases keep <;> rfl
    show c2.mode = c.mode
    cases hd : r.delta with
    | none => simp only [c2, hd]; exact h0
    | some d => simp only [c2, hd]; exact (foldl_setLink_same ..).2.trans h0
  -- deliver, a broker's own broadcast coming back
  case case12 a b relay keep o l rest br hb c0 src m hsrc hw => cases keep <;> rfl
  -- everywhere else the result is `c`, `c.setLink ..` or `c.setBroker ..`
  all_goals rfl

theorem run_mode (c : Cluster) (evs : List Ev) : (c.run evs).1.mode = c.mode :=
  run_inv (P := fun x => x.mode = c.mode) (G := fun _ => True) (F := fun _ => True)
    (fun x e hx _ _ => (step_mode x e).trans hx) evs c rfl (fun _ _ => trivial) (fun _ _ => trivial)

theorem binv_routing {b : Broker} (hb : BInv b) (p : PeerName) (hp : p ≠ b.self) (σ : Ssid) :
    counterOf b p σ = cnt b.state p σ ∧ (hasRoute b.routes σ p = true ↔ 0 < cnt b.state p σ) := by
  rw [hasRoute_iff]
  unfold counterOf
  cases hm : mget b.members p with
  | none =>
    rw [hb.absent p hp hm σ]
    exact ⟨rfl, fun ⟨g, hg⟩ => absurd hg (hb.no_route hm σ g), fun h => absurd h (Nat.lt_irrefl 0)⟩
  | some r =>
    rw [← hb.counters p r hm σ]
    exact ⟨rfl, fun ⟨g, hg⟩ => ((hb.routes_of hm σ g).1 hg).2, fun h => ⟨r.gen, (hb.routes_of hm σ r.gen).2 ⟨rfl, h⟩⟩⟩

/-- the broker's own entries tell the truth about its clients: an ssid has an active entry of
this broker iff a live local subscription holds it -/
def OwnTruth (b : Broker) : Prop := ∀ σ, 0 < cnt b.state b.self σ ↔ ∃ c, (c, σ) ∈ b.locals

theorem cnt_pos_equiv {s t : Map} (hs : NoDup s) (ht : NoDup t) (h : Equiv s t) (p : PeerName) (σ : Ssid) :
    0 < cnt s p σ ↔ 0 < cnt t p σ := by
  rw [cnt_pos_iff_has s hs, cnt_pos_iff_has t ht]
  exact exists_congr fun k => and_congr_left' (by rw [has_congr s t k (h k)])

theorem mem_forwardTo (mode : Trie.Mode) (b : Broker) (q : Ssid) (p : PeerName) :
    p ∈ forwardTo mode b q ↔ ∃ σ g, (σ, p, g) ∈ b.routes ∧ Trie.matchesMode mode σ q = true ∧ sendable b (σ, p, g) = true := by
  unfold forwardTo
  rw [List.mem_eraseDups, List.mem_map]
  simp only [List.mem_filter, Bool.and_eq_true]
  exact ⟨fun ⟨⟨σ, p', g⟩, hr, e⟩ => ⟨σ, g, e ▸ hr⟩, fun ⟨σ, g, h⟩ => ⟨(σ, p, g), h, rfl⟩⟩

theorem mem_localTo (mode : Trie.Mode) (b : Broker) (q : Ssid) (cn : ConnId) :
    cn ∈ localTo mode b q ↔ ∃ σ, (cn, σ) ∈ b.locals ∧ Trie.matchesMode mode σ q = true := by
  unfold localTo
  rw [List.mem_eraseDups, List.mem_map]
  simp only [List.mem_filter]
  exact ⟨fun ⟨⟨c, σ⟩, hr, e⟩ => ⟨σ, e ▸ hr⟩, fun ⟨σ, h⟩ => ⟨(cn, σ), h, rfl⟩⟩

/-- Routing at quiescence, for one publishing broker `a`: with equal states everywhere, truthful
own entries, every known peer active, and every entry naming a broker of the cluster, a message
with ssid `q` is forwarded to exactly the other brokers that hold a live local subscription
whose filter matches `q`. -/
theorem forward_exact (mode : Trie.Mode) {bs : List Broker} {a : Broker} (ha : a ∈ bs)
    (hinv : ∀ x ∈ bs, BInv x)
    (heq : ∀ x ∈ bs, Equiv a.state x.state)
    (hown : ∀ x ∈ bs, OwnTruth x)
    (hact : ∀ p r, mget a.members p = some r → r.active = true)
    (hpeers : ∀ p σ, 0 < cnt a.state p σ → ∃ y ∈ bs, y.self = p)
    (q : Ssid) (p : PeerName) :
    p ∈ forwardTo mode a q ↔
      p ≠ a.self ∧ ∃ y ∈ bs, y.self = p ∧ ∃ cn σ, (cn, σ) ∈ y.locals ∧ Trie.matchesMode mode σ q = true := by
  have hba := hinv a ha
  rw [mem_forwardTo]
  constructor
  · rintro ⟨σ, g, hr, hmatch, _⟩
    obtain ⟨r, hm, _, hpos⟩ := (hba.routes σ p g).1 hr
    have hne : p ≠ a.self := ne_of_mget hm hba.noself
    rw [hba.counters p r hm σ] at hpos
    obtain ⟨y, hy, hys⟩ := hpeers p σ hpos
    have hposy := (cnt_pos_equiv hba.nodup (hinv y hy).nodup (heq y hy) p σ).1 hpos
    rw [← hys] at hposy
    obtain ⟨cn, hcn⟩ := (hown y hy σ).1 hposy
    exact ⟨hne, y, hy, hys, cn, σ, hcn, hmatch⟩
  · rintro ⟨hne, y, hy, hys, cn, σ, hcn, hmatch⟩
    have hposy : 0 < cnt y.state y.self σ := (hown y hy σ).2 ⟨cn, hcn⟩
    rw [hys] at hposy
    have hpos := (cnt_pos_equiv hba.nodup (hinv y hy).nodup (heq y hy) p σ).2 hposy
    cases hm : mget a.members p with
    | none =>
      rw [hba.absent p hne hm σ] at hpos
      exact absurd hpos (Nat.lt_irrefl 0)
    | some r =>
      have hc : 0 < cget r.subs σ := by rw [hba.counters p r hm σ]; exact hpos
      exact ⟨σ, r.gen, (hba.routes_of hm σ r.gen).2 ⟨rfl, hc⟩, hmatch, by simp [sendable, hm, hact p r hm]⟩

end Emitter.Cluster
