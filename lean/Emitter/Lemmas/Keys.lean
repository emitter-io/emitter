/-
  Lemmas for C11 and C14 over Model/Security.lean: what `CreateKey` / `ExtendKey` hand to
  `SetTarget` and what `SetTarget` keeps of it, and the two outcomes of a key-ban request.
-/
import Emitter.Lemmas.Security
import Emitter.Lemmas.Channel
namespace Emitter.Security
open Emitter

/-! bit masks: what core's `UInt8` lemmas do not give in one step -/

theorem u8_or_and (a b c : UInt8) : (a ||| b) &&& c = (a &&& c) ||| (b &&& c) := by
  rw [← UInt8.toNat_inj]
  simp only [UInt8.toNat_and, UInt8.toNat_or]
  exact Nat.and_or_distrib_right ..

theorem u8_and_mask_self (a m : UInt8) : (a &&& m) &&& a = a &&& m := by
  rw [UInt8.and_comm, ← UInt8.and_assoc, UInt8.and_self]

/-- `a &&& (0xFF ^^^ m)` is how the Go code clears the bits `m` -/
theorem u8_clear (a m : UInt8) : (a &&& (0xFF ^^^ m)) &&& m = 0 := by
  show (a &&& (-1 ^^^ m)) &&& m = 0
  rw [UInt8.neg_one_xor, UInt8.and_assoc, UInt8.not_and_self, UInt8.and_zero]

/-- bits that are clear stay clear under a further mask -/
theorem u8_clear_and {a : UInt8} (b : UInt8) {m : UInt8} (h : a &&& m = 0) : (a &&& b) &&& m = 0 := by
  rw [UInt8.and_assoc, UInt8.and_comm b, ← UInt8.and_assoc, h, UInt8.zero_and]

theorem len24_setPermissions {k : Key} (p : UInt8) (hk : k.length = 24) : (k.setPermissions p).length = 24 :=
  len24_setAt 15 [p] hk (by simp)

theorem len24_setExpires {k : Key} (t : Int) (hk : k.length = 24) : (k.setExpires t).length = 24 :=
  len24_setAt 20 _ hk (by simp [putBe32_length])

theorem setPermissions_b {k : Key} (p : UInt8) (j : Nat) (hk : k.length = 24) :
    (k.setPermissions p).b j = if j = 15 then p else k.b j := by
  unfold Key.setPermissions
  rw [setAt_b k 15 [p] j (by simp [hk])]
  by_cases h : j = 15
  · subst h; simp
  · have : ¬ (15 ≤ j ∧ j < 15 + ([p] : Bytes).length) := by simp; omega
    rw [if_neg this, if_neg h]

theorem setPermissions_permissions {k : Key} (p : UInt8) (hk : k.length = 24) :
    (k.setPermissions p).permissions = p := by
  unfold Key.permissions; rw [setPermissions_b p 15 hk, if_pos rfl]

theorem setExpires_b_out {k : Key} (t : Int) (j : Nat) (hk : k.length = 24) (hj : j < 20) :
    (k.setExpires t).b j = k.b j :=
  setAt_b_out k 20 _ j (by simp [putBe32_length, hk]) (Or.inl hj)

/-- `SetTarget` on a key either fails (for reasons that depend on the channel alone) or
rewrites bytes 12..14 and 16..19 with values that depend on the channel alone. -/
theorem setTarget_shape (k : Key) (ch : Bytes) (k' : Key) (h : k.setTarget ch = .ok k') :
    ∃ v3 v4 : Bytes, v3.length = 3 ∧ v4.length = 4 ∧ k' = (k.setAt 12 v3).setAt 16 v4 ∧
      ∀ k2 : Key, k2.setTarget ch = .ok ((k2.setAt 12 v3).setAt 16 v4) := by
  rw [setTarget_eq, Outcome.ite_err_eq_ok, Outcome.ite_err_eq_ok] at h
  obtain ⟨hc1, hc2, h⟩ := h
  cases h
  exact ⟨_, _, rfl, rfl, rfl, fun k2 => by rw [setTarget_eq, if_neg hc1, if_neg hc2]⟩

/-- contract id, signature and master id sit in bytes 2..11 -/
theorem ids_of_b {k k' : Key} (h : ∀ i, i < 12 → k'.b i = k.b i) :
    k'.contract = k.contract ∧ k'.signature = k.signature ∧ k'.master = k.master := by
  unfold Key.contract Key.signature Key.master
  rw [h 4 (by omega), h 5 (by omega), h 6 (by omega), h 7 (by omega), h 8 (by omega), h 9 (by omega), h 10 (by omega),
    h 11 (by omega), h 2 (by omega), h 3 (by omega)]
  exact ⟨rfl, rfl, rfl⟩

/-- `k'` has 24 bytes and the permissions, ids and expiry of `k`: everything but the target -/
structure Keeps (k k' : Key) : Prop where
  length : k'.length = 24
  permissions : k'.permissions = k.permissions
  contract : k'.contract = k.contract
  signature : k'.signature = k.signature
  master : k'.master = k.master
  expireField : k'.expireField = k.expireField

/-- `SetTarget` keeps every other field of a 24-byte key … -/
theorem setTarget_keeps {k : Key} (hk : k.length = 24) {ch : Bytes} {k' : Key} (h : k.setTarget ch = .ok k') :
    Keeps k k' := by
  obtain ⟨v3, v4, h3, h4, rfl, -⟩ := setTarget_shape k ch k' h
  have hb (i : Nat) (hi : i < 12 ∨ i = 15 ∨ 20 ≤ i) : ((k.setAt 12 v3).setAt 16 v4).b i = k.b i := by
    rw [setAt2_b k hk v3 v4 h3 h4, if_neg (by omega), if_neg (by omega)]
  obtain ⟨hc, hs, hm⟩ := ids_of_b (fun i hi => hb i (Or.inl hi))
  refine { length := len24_setAt 16 v4 (len24_setAt 12 v3 hk (by omega)) (by omega), permissions := hb 15 (by omega),
           contract := hc, signature := hs, master := hm, expireField := ?_ }
  unfold Key.expireField
  rw [hb 20 (by omega), hb 21 (by omega), hb 22 (by omega), hb 23 (by omega)]

/-- … and the target fields are those it writes into any key -/
theorem setTarget_target {k : Key} (hk : k.length = 24) {ch : Bytes} {k' : Key} (h : k.setTarget ch = .ok k') :
    ∃ k0, Key.setTarget (List.replicate 24 0) ch = .ok k0 ∧ k'.targetPath = k0.targetPath ∧ k'.target = k0.target := by
  obtain ⟨v3, v4, h3, h4, rfl, hall⟩ := setTarget_shape k ch k' h
  refine ⟨_, hall _, ?_, ?_⟩
  · unfold Key.targetPath
    simp [setAt2_b, hk, h3, h4]
  · unfold Key.target
    simp [setAt2_b, hk, h3, h4]

/-- the key `CreateKey` hands to `SetTarget`: the statements of `createKey` between the checks and
`SetTarget`, in its order -/
def preKey (mk : Key) (access : UInt8) (expires : Int) (salt : UInt16) : Key :=
  let k : Key := List.replicate 24 0
  let k := k.setAt 0 (putBe16 salt)
  let k := k.setAt 2 (putBe16 mk.master)
  let k := k.setAt 4 (putBe32 mk.contract)
  let k := k.setAt 8 (putBe32 mk.signature)
  let k := k.setPermissions access
  let k := k.setExpires expires
  k.setPermissions (k.permissions &&& (0xFF ^^^ permMaster))

theorem createKey_ok (e : Env) (masterStr channel : Bytes) (access : UInt8) (expires : Int) (salt : UInt16)
    (k : Key) (h : createKey e masterStr channel access expires salt = .ok k) :
    ∃ mk, e.decrypt masterStr = some mk ∧ mk.isMaster = true ∧ mk.isExpired e.now = false ∧ e.contractOk mk = true ∧
      (preKey mk access expires salt).setTarget channel = .ok k := by
  unfold createKey at h
  cases hd : e.decrypt masterStr with
  | none => rw [hd] at h; cases h
  | some mk =>
    simp only [hd, Outcome.ite_err_eq_ok, Bool.or_eq_true, Bool.not_eq_true', not_or, Bool.not_eq_false, Bool.not_eq_true] at h
    -- the three guards: master and unexpired, contract found, contract valid
    obtain ⟨⟨hm, hx⟩, _, hc, ht⟩ := h
    exact ⟨mk, rfl, hm, hx, hc, ht⟩

/-- the key `CreateKey` hands to `SetTarget`, written out: it is built from nothing -/
theorem preKey_eq (mk : Key) (access : UInt8) (expires : Int) (salt : UInt16) :
    preKey mk access expires salt =
      putBe16 salt ++ putBe16 mk.master ++ putBe32 mk.contract ++ putBe32 mk.signature ++
        [0, 0, 0, access &&& (0xFF ^^^ permMaster), 0, 0, 0, 0] ++
        putBe32 (UInt32.ofNat ((if expires > 0 then expires - keyTimeOffset else expires) % 4294967296).toNat) := by
  -- evaluation of the setters on the literal 24-byte list
  simp only [preKey, Key.setPermissions, Key.setExpires, Key.setAt, Key.permissions, Key.b, putBe16, putBe32,
    List.replicate, List.take, List.drop, List.length_cons, List.length_nil, List.cons_append, List.nil_append,
    List.append_nil, List.getD_cons_succ, List.getD_cons_zero, Nat.reduceAdd]

theorem preKey_facts (mk : Key) (access : UInt8) (expires : Int) (salt : UInt16) :
    (preKey mk access expires salt).length = 24 ∧
    (preKey mk access expires salt).permissions = access &&& (0xFF ^^^ permMaster) ∧
    (preKey mk access expires salt).contract = mk.contract ∧
    (preKey mk access expires salt).signature = mk.signature ∧
    (preKey mk access expires salt).master = mk.master ∧
    (preKey mk access expires salt).expireField = (Key.setExpires (List.replicate 24 (0 : UInt8)) expires).expireField := by
  have e0 : Key.setExpires (List.replicate 24 (0 : UInt8)) expires = List.replicate 20 0 ++
      putBe32 (UInt32.ofNat ((if expires > 0 then expires - keyTimeOffset else expires) % 4294967296).toNat) := by
    simp only [Key.setExpires, Key.setAt, putBe32, List.replicate, List.take, List.drop, List.length_cons, List.length_nil,
      List.cons_append, List.nil_append, List.append_nil, Nat.reduceAdd]
  rw [preKey_eq, e0]
  -- reading the fields off the literal list
  simp only [putBe16, putBe32, List.replicate, List.cons_append, List.nil_append, List.length_cons, List.length_nil,
    Key.permissions, Key.contract, Key.signature, Key.master, Key.expireField, Key.b, List.getD_cons_succ,
    List.getD_cons_zero, be32_putBe32, be16_putBe16, and_self]

theorem hasPermission_false (k : Key) (flag : UInt8) (h0 : k.permissions &&& flag = 0) (hf : flag ≠ 0) :
    k.hasPermission flag = false :=
  Bool.eq_false_iff.2 fun h => hf (((hasPermission_iff k flag).1 h).symm.trans h0)

/-- the key `ExtendKey` hands to `SetTarget`: the statements of `extendKey` on the parent key, in
its order -/
def extPre (parent : Key) (access : UInt8) (expires : Int) : Key :=
  let k := parent.setPermissions (parent.permissions &&& (0xFF ^^^ permExtend))
  let k := k.setPermissions (k.permissions &&& access)
  k.setExpires expires

/-- `ch` is the channel `ExtendKey` parses: the key string, a '/', and the channel name without a
trailing "#/" -/
theorem extendKey_ok (e : Env) (keyStr channelName connId : Bytes) (access : UInt8) (expires : Int)
    (k : Key) (target : Bytes) (ch : Channel)
    (hch : ch = parseChannel (keyStr ++ [sep] ++
      (if hasSuffix channelName [35, 47] then channelName.take (channelName.length - 2) else channelName)))
    (h : extendKey e keyStr channelName connId access expires = .ok (k, target)) :
    ch.ctype = chStatic ∧
    ∃ parent, authorize e ch permExtend = some parent ∧
      target = ch.channel ++ connId ++ [sep] ++ (if hasSuffix channelName [35, 47] then [35, 47] else []) ∧
      (extPre parent access expires).setTarget target = .ok k := by
  unfold extendKey at h
  dsimp only at h
  rw [← hch] at h
  split at h
  · cases h                                  -- not a static channel
  next hst =>
    split at h
    · cases h                                -- the parent does not authorize Extend
    next parent ha =>
      split at h
      next k' hs =>
        -- `SetTarget` succeeded, on the key that `extPre` names
        cases h
        exact ⟨by simpa using hst, parent, ha, rfl, hs⟩
      · cases h
      · cases h

theorem extPre_facts (parent : Key) (access : UInt8) (expires : Int) (hl : parent.length = 24) :
    (extPre parent access expires).length = 24 ∧
    (extPre parent access expires).permissions = (parent.permissions &&& (0xFF ^^^ permExtend)) &&& access ∧
    (extPre parent access expires).contract = parent.contract ∧ (extPre parent access expires).signature = parent.signature ∧
    (extPre parent access expires).master = parent.master := by
  have l1 := len24_setPermissions (parent.permissions &&& (0xFF ^^^ permExtend)) hl
  have l2 := len24_setPermissions ((parent.setPermissions (parent.permissions &&& (0xFF ^^^ permExtend))).permissions &&& access) l1
  unfold extPre
  refine ⟨len24_setExpires _ l2, ?_, ids_of_b fun j hj => ?_⟩
  · rw [Key.permissions, setExpires_b_out _ 15 l2 (by omega), setPermissions_b _ 15 l1, if_pos rfl,
      setPermissions_permissions _ hl]
  · rw [setExpires_b_out _ j l2 (by omega), setPermissions_b _ j l1, if_neg (by omega), setPermissions_b _ j hl,
      if_neg (by omega)]

/-- extension: the parent must authorize Extend on the (static) channel; the channel that is
authorized carries as its key the part of `keyStr` before its first '/' (no hypothesis on `keyStr`) -/
theorem extendKey_requires_extend_gen (e : Env) (keyStr channelName connId : Bytes) (access : UInt8) (expires : Int)
    (k : Key) (target : Bytes) (h : extendKey e keyStr channelName connId access expires = .ok (k, target)) :
    ∃ parent ch, ch.ctype = chStatic ∧ authorize e ch permExtend = some parent ∧
      ch.key = keyStr.takeWhile (· != sep) := by
  obtain ⟨hs, parent, ha, _, _⟩ := extendKey_ok e keyStr channelName connId access expires k target _ rfl h
  refine ⟨parent, _, hs, ha, ?_⟩
  rw [parseChannel_key _ (by rw [hs]; decide), List.append_assoc]
  exact takeWhile_append_sep _ _

theorem keyban_cases (e : Env) (secret target : Bytes) (want : Bool) :
    ((keyban e secret target want).2 = 401 ∧ (keyban e secret target want).1 = e.banned) ∨
    ((∃ sk tk, e.decrypt secret = some sk ∧ sk.isMaster = true ∧ sk.isExpired e.now = false ∧
        e.decrypt target = some tk ∧ tk.contract = sk.contract) ∧
      keyban e secret target want =
        (if want && !e.banned.contains target then (target :: e.banned, 200)
          else if !want && e.banned.contains target then (e.banned.filter (· != target), 200)
          else (e.banned, 200))) := by
  unfold keyban
  cases hs : e.decrypt secret with
  | none => exact .inl ⟨rfl, rfl⟩                       -- the secret does not decrypt
  | some sk =>
    dsimp only
    by_cases h1 : (sk.isExpired e.now || !sk.isMaster) = true
    · rw [if_pos h1]; exact .inl ⟨rfl, rfl⟩             -- it is expired, or not a master key
    · rw [if_neg h1]
      cases ht : e.decrypt target with
      | none => exact .inl ⟨rfl, rfl⟩                   -- the target does not decrypt
      | some tk =>
        dsimp only
        by_cases h2 : (tk.contract != sk.contract) = true
        · rw [if_pos h2]; exact .inl ⟨rfl, rfl⟩         -- the target is a key of another contract
        · rw [if_neg h2]
          have h1 : sk.isExpired e.now = false ∧ sk.isMaster = true := by simpa using h1
          have h2 : tk.contract = sk.contract := by simpa using h2
          exact .inr ⟨⟨sk, tk, rfl, h1.2, h1.1, rfl, h2⟩, rfl⟩

theorem keyban_mem_iff (e : Env) (secret target : Bytes) (want : Bool) (h : (keyban e secret target want).2 = 200) :
    target ∈ (keyban e secret target want).1 ↔ want = true := by
  rcases keyban_cases e secret target want with ⟨h401, _⟩ | ⟨-, hk⟩
  · rw [h401] at h; exact absurd h (by decide)
  · rw [hk]
    cases want <;> cases hc : e.banned.contains target <;> simp_all

theorem authorize_not_banned (e : Env) (bn : List Bytes) (ch : Channel) (perm : UInt8) (h : ch.key ∉ bn) :
    authorize { e with banned := bn } ch perm = authorize { e with banned := [] } ch perm := by
  have hc : bn.contains ch.key = false := by simpa using h
  unfold authorize Env.decrypt Env.contractOk
  simp only [hc, List.contains_nil]

end Emitter.Security
