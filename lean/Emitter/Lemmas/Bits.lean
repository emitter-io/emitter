/-
  Bridging lemmas between the bitwise form of the Go code (as translated by tools/go2lean into
  `Emitter/Generated/Go*.lean`: shifts, ors, masks, conversions on `UInt8/16/32/64`, `Int64`) and the
  arithmetic form of the hand-written model (`a*256+b`, `/`, `%`, unbounded `Int`).  Core Lean only; proved once,
  used by `Props/Tie/*.lean`.
-/
import Emitter.Model.Base
namespace Emitter.Bits
open Emitter

/-! normalisation modulo associativity and commutativity of the bitwise operators (ordered rewriting by `simp`;
`ac_rfl` is not usable here: it unfolds the shifts by literals when it compares atoms) -/
theorem or_left_comm8 (a b c : UInt8) : a ||| (b ||| c) = b ||| (a ||| c) := by
  rw [← UInt8.or_assoc, UInt8.or_comm a b, UInt8.or_assoc]
theorem and_left_comm8 (a b c : UInt8) : a &&& (b &&& c) = b &&& (a &&& c) := by
  rw [← UInt8.and_assoc, UInt8.and_comm a b, UInt8.and_assoc]
theorem xor_left_comm8 (a b c : UInt8) : a ^^^ (b ^^^ c) = b ^^^ (a ^^^ c) := by
  rw [← UInt8.xor_assoc, UInt8.xor_comm a b, UInt8.xor_assoc]
theorem or_left_comm16 (a b c : UInt16) : a ||| (b ||| c) = b ||| (a ||| c) := by
  rw [← UInt16.or_assoc, UInt16.or_comm a b, UInt16.or_assoc]
theorem and_left_comm16 (a b c : UInt16) : a &&& (b &&& c) = b &&& (a &&& c) := by
  rw [← UInt16.and_assoc, UInt16.and_comm a b, UInt16.and_assoc]
theorem xor_left_comm16 (a b c : UInt16) : a ^^^ (b ^^^ c) = b ^^^ (a ^^^ c) := by
  rw [← UInt16.xor_assoc, UInt16.xor_comm a b, UInt16.xor_assoc]
theorem or_left_comm32 (a b c : UInt32) : a ||| (b ||| c) = b ||| (a ||| c) := by
  rw [← UInt32.or_assoc, UInt32.or_comm a b, UInt32.or_assoc]
theorem and_left_comm32 (a b c : UInt32) : a &&& (b &&& c) = b &&& (a &&& c) := by
  rw [← UInt32.and_assoc, UInt32.and_comm a b, UInt32.and_assoc]
theorem xor_left_comm32 (a b c : UInt32) : a ^^^ (b ^^^ c) = b ^^^ (a ^^^ c) := by
  rw [← UInt32.xor_assoc, UInt32.xor_comm a b, UInt32.xor_assoc]
theorem or_left_comm64 (a b c : UInt64) : a ||| (b ||| c) = b ||| (a ||| c) := by
  rw [← UInt64.or_assoc, UInt64.or_comm a b, UInt64.or_assoc]
theorem and_left_comm64 (a b c : UInt64) : a &&& (b &&& c) = b &&& (a &&& c) := by
  rw [← UInt64.and_assoc, UInt64.and_comm a b, UInt64.and_assoc]
theorem xor_left_comm64 (a b c : UInt64) : a ^^^ (b ^^^ c) = b ^^^ (a ^^^ c) := by
  rw [← UInt64.xor_assoc, UInt64.xor_comm a b, UInt64.xor_assoc]

/-- closes / normalises a goal whose two sides differ by re-ordering operands of `|||`, `&&&`, `^^^`. The ties write
`step <;> tie_ac`: on the present source the step before it already closes the goal and `tie_ac` runs on nothing;
after a re-ordering of operands in the Go source it is what closes it. -/
macro "tie_ac" : tactic => `(tactic| simp only [
    UInt8.or_assoc, UInt8.or_comm, Emitter.Bits.or_left_comm8,
    UInt8.and_assoc, UInt8.and_comm, Emitter.Bits.and_left_comm8,
    UInt8.xor_assoc, UInt8.xor_comm, Emitter.Bits.xor_left_comm8,
    UInt16.or_assoc, UInt16.or_comm, Emitter.Bits.or_left_comm16,
    UInt16.and_assoc, UInt16.and_comm, Emitter.Bits.and_left_comm16,
    UInt16.xor_assoc, UInt16.xor_comm, Emitter.Bits.xor_left_comm16,
    UInt32.or_assoc, UInt32.or_comm, Emitter.Bits.or_left_comm32,
    UInt32.and_assoc, UInt32.and_comm, Emitter.Bits.and_left_comm32,
    UInt32.xor_assoc, UInt32.xor_comm, Emitter.Bits.xor_left_comm32,
    UInt64.or_assoc, UInt64.or_comm, Emitter.Bits.or_left_comm64,
    UInt64.and_assoc, UInt64.and_comm, Emitter.Bits.and_left_comm64,
    UInt64.xor_assoc, UInt64.xor_comm, Emitter.Bits.xor_left_comm64])

/-- or-ing a byte under the value shifted by 8 is the step of the big-endian reading -/
theorem foldl_or (bs : Bytes) : bs.foldl (fun acc b => acc <<< 8 ||| b.toNat) 0 = beNat bs := by
  have : (fun (acc : Nat) (b : UInt8) => acc <<< 8 ||| b.toNat) = fun acc b => acc * 256 + b.toNat := by
    funext acc b
    rw [← Nat.shiftLeft_add_eq_or_of_lt b.toNat_lt acc, Nat.shiftLeft_eq]
  rw [this, beNat]

theorem shl_mod {a k w : Nat} (ha : a < 2 ^ 8) (hk : k + 8 ≤ w) : a <<< k % 2 ^ w = a <<< k := by
  apply Nat.mod_eq_of_lt
  rw [Nat.shiftLeft_eq]
  calc a * 2 ^ k < 2 ^ 8 * 2 ^ k := Nat.mul_lt_mul_of_pos_right ha (Nat.two_pow_pos k)
    _ = 2 ^ (k + 8) := by rw [Nat.add_comm, Nat.pow_add]
    _ ≤ 2 ^ w := Nat.pow_le_pow_right (by decide) hk

theorem or16 (a b : UInt8) : (a.toUInt16 <<< 8 ||| b.toUInt16) = be16 a b := by
  have := foldl_or [a, b]
  simp only [List.foldl, Nat.zero_shiftLeft, Nat.zero_or] at this
  apply UInt16.toNat.inj
  simp only [UInt16.toNat_or, UInt16.toNat_shiftLeft, UInt8.toNat_toUInt16, UInt16.toNat_ofNat,
    shl_mod a.toNat_lt (by decide : 8 + 8 ≤ 16), this, be16_eq, UInt16.toNat_ofNat']
  have h : beNat [a, b] < 2 ^ 16 := Nat.lt_of_lt_of_eq (beNat_lt _) (by simp)
  omega

theorem or32 (a b c d : UInt8) :
    (a.toUInt32 <<< 24 ||| b.toUInt32 <<< 16 ||| c.toUInt32 <<< 8 ||| d.toUInt32) = be32 a b c d := by
  -- shifts distribute over `|||`, so the fold of `foldl_or` is the flat chain; no byte leaves the word (`shl_mod`)
  have := foldl_or [a, b, c, d]
  simp only [List.foldl, Nat.shiftLeft_or_distrib, ← Nat.shiftLeft_add, Nat.reduceAdd, Nat.zero_shiftLeft,
    Nat.zero_or] at this
  apply UInt32.toNat.inj
  simp only [UInt32.toNat_or, UInt32.toNat_shiftLeft, UInt8.toNat_toUInt32, UInt32.toNat_ofNat,
    shl_mod a.toNat_lt (by decide : 24 + 8 ≤ 32), shl_mod b.toNat_lt (by decide : 16 + 8 ≤ 32),
    shl_mod c.toNat_lt (by decide : 8 + 8 ≤ 32), this, be32_eq, UInt32.toNat_ofNat']
  have h : beNat [a, b, c, d] < 2 ^ 32 := Nat.lt_of_lt_of_eq (beNat_lt _) (by simp)
  omega

/-- `or32` with the operands in the order `GoPrelude.beUInt32` (`binary.BigEndian.Uint32`) writes them -/
theorem or32_le (a b c d : UInt8) :
    (d.toUInt32 ||| c.toUInt32 <<< 8 ||| b.toUInt32 <<< 16 ||| a.toUInt32 <<< 24) = be32 a b c d := by
  rw [← or32]
  tie_ac

theorem or24 (a b c : UInt8) : (a.toUInt32 <<< 16 ||| b.toUInt32 <<< 8 ||| c.toUInt32) = be32 0 a b c := by
  rw [← or32]
  simp

/-! byte extraction: the model's `UInt8.ofNat (x / 256^i)` is the code's `byte(x >> 8*i)`; stated towards the bitwise
form, which is also the normal form of core's simp set (`UInt8.ofNat_uInt32ToNat : UInt8.ofNat x.toNat = x.toUInt8`) -/
theorem hi8_16 (v : UInt16) : UInt8.ofNat (v.toNat / 256) = (v >>> 8).toUInt8 := by
  apply UInt8.toNat.inj
  simp [Nat.shiftRight_eq_div_pow]

theorem b1_32 (v : UInt32) : UInt8.ofNat (v.toNat / 256) = (v >>> 8).toUInt8 := by
  apply UInt8.toNat.inj
  simp [Nat.shiftRight_eq_div_pow]

theorem b2_32 (v : UInt32) : UInt8.ofNat (v.toNat / 65536) = (v >>> 16).toUInt8 := by
  apply UInt8.toNat.inj
  simp [Nat.shiftRight_eq_div_pow]

theorem b3_32 (v : UInt32) : UInt8.ofNat (v.toNat / 16777216) = (v >>> 24).toUInt8 := by
  apply UInt8.toNat.inj
  simp [Nat.shiftRight_eq_div_pow]

theorem mask_lo_16 (v : UInt16) : (v &&& 255).toUInt8 = v.toUInt8 := by
  apply UInt8.toNat.inj
  simp only [UInt16.toUInt8_and, UInt16.toUInt8_ofNat, UInt8.toNat_and, UInt16.toNat_toUInt8, Nat.reducePow,
    UInt8.reduceToNat]
  rw [show (255 : Nat) = 2 ^ 8 - 1 by rfl, Nat.and_two_pow_sub_one_eq_mod]
  omega

theorem mask_hi_16 (v : UInt16) : ((v &&& 65280) >>> 8) = v >>> 8 := by
  apply UInt16.toNat.inj
  simp only [UInt16.toNat_shiftRight, UInt16.toNat_and, UInt16.reduceToNat, Nat.reduceMod]
  have h := v.toNat_lt
  rw [Nat.shiftRight_and_distrib, show (65280:Nat) >>> 8 = 2^8 - 1 by decide, Nat.and_two_pow_sub_one_eq_mod,
    Nat.shiftRight_eq_div_pow]
  omega

theorem toInt_u32 (x : UInt32) : (x.toUInt64.toInt64).toInt = x.toNat := by
  have h := x.toNat_lt
  have e : x.toUInt64.toBitVec.toNat = x.toNat := by
    simp only [UInt32.toBitVec_toUInt64, BitVec.toNat_setWidth, UInt32.toNat_toBitVec, Nat.reducePow,
      UInt32.toNat_mod_uInt64Size]
  unfold Int64.toInt
  rw [UInt64.toBitVec_toInt64, BitVec.toInt_eq_toNat_of_lt (by rw [e]; omega), e]

/-- the wrap-around of an `Int64` operation does not show modulo 2^32 -/
theorem bmod_emod_32 (x : Int) : x.bmod (2 ^ 64) % 4294967296 = x % 4294967296 := by
  rw [← Int.emod_emod_of_dvd (x.bmod (2 ^ 64)) (by decide : (4294967296 : Int) ∣ ((2 ^ 64 : Nat) : Int)), Int.bmod_emod,
    Int.emod_emod_of_dvd _ (by decide)]

theorem u32_of_i64 (e : Int64) : e.toUInt64.toUInt32 = UInt32.ofNat (e.toInt % 4294967296).toNat := by
  apply UInt32.toNat.inj
  -- modulo 2^32 the signed and the unsigned reading agree, since 2^32 divides 2^64
  have h : e.toInt % 4294967296 = ((e.toUInt64.toNat % 4294967296 : Nat) : Int) := by
    rw [show e.toInt = Int.bmod e.toUInt64.toNat (2 ^ 64) from BitVec.toInt_eq_toNat_bmod e.toBitVec, bmod_emod_32]
    rfl
  rw [h, Int.toNat_natCast, UInt64.toNat_toUInt32, UInt32.toNat_ofNat', Nat.mod_mod]

theorem u32_of_sub (a b : Int64) :
    (a - b).toUInt64.toUInt32 = UInt32.ofNat ((a.toInt - b.toInt) % 4294967296).toNat := by
  rw [u32_of_i64, Int64.toInt_sub, bmod_emod_32]

/-! the 64-bit instance (no translated unit reads a 64-bit word; `GoPrelude.beUInt64` has the operands in the opposite order) -/
theorem or64 (a b c d e f g h : UInt8) :
    (a.toUInt64 <<< 56 ||| b.toUInt64 <<< 48 ||| c.toUInt64 <<< 40 ||| d.toUInt64 <<< 32 ||| e.toUInt64 <<< 24 |||
      f.toUInt64 <<< 16 ||| g.toUInt64 <<< 8 ||| h.toUInt64).toNat =
      a.toNat * 2 ^ 56 + b.toNat * 2 ^ 48 + c.toNat * 2 ^ 40 + d.toNat * 2 ^ 32 + e.toNat * 2 ^ 24 + f.toNat * 2 ^ 16 +
        g.toNat * 2 ^ 8 + h.toNat := by
  have := foldl_or [a, b, c, d, e, f, g, h]
  simp only [List.foldl, Nat.shiftLeft_or_distrib, ← Nat.shiftLeft_add, Nat.reduceAdd, Nat.zero_shiftLeft,
    Nat.zero_or] at this
  simp only [UInt64.toNat_or, UInt64.toNat_shiftLeft, UInt8.toNat_toUInt64, UInt64.toNat_ofNat,
    shl_mod a.toNat_lt (by decide : 56 + 8 ≤ 64), shl_mod b.toNat_lt (by decide : 48 + 8 ≤ 64),
    shl_mod c.toNat_lt (by decide : 40 + 8 ≤ 64), shl_mod d.toNat_lt (by decide : 32 + 8 ≤ 64),
    shl_mod e.toNat_lt (by decide : 24 + 8 ≤ 64), shl_mod f.toNat_lt (by decide : 16 + 8 ≤ 64),
    shl_mod g.toNat_lt (by decide : 8 + 8 ≤ 64), this]
  simp only [beNat_cons, List.length_cons, List.length_nil, Nat.reduceAdd, Nat.reducePow,
    show beNat [] = 0 from rfl, Nat.add_zero, Nat.mul_one, Nat.add_assoc]

theorem not_eq_xor (f : UInt8) : ~~~f = 255 ^^^ f := (UInt8.neg_one_xor (a := f)).symm

/-- eight at a time: `list24` in three steps; one `match` on 24 conses is what this avoids -/
theorem cons8_of_length {α} {n : Nat} (k : List α) (h : k.length = n + 8) :
    ∃ a0 a1 a2 a3 a4 a5 a6 a7 t, k = a0 :: a1 :: a2 :: a3 :: a4 :: a5 :: a6 :: a7 :: t ∧ t.length = n :=
  match k, h with
  | a0 :: a1 :: a2 :: a3 :: a4 :: a5 :: a6 :: a7 :: t, h =>
    ⟨a0, a1, a2, a3, a4, a5, a6, a7, t, rfl, Nat.add_right_cancel (m := 8) h⟩

theorem list24 {α} (k : List α) (h : k.length = 24) :
    ∃ a0 a1 a2 a3 a4 a5 a6 a7 a8 a9 a10 a11 a12 a13 a14 a15 a16 a17 a18 a19 a20 a21 a22 a23,
      k = [a0, a1, a2, a3, a4, a5, a6, a7, a8, a9, a10, a11, a12, a13, a14, a15, a16, a17, a18, a19, a20, a21, a22, a23] := by
  obtain ⟨a0, a1, a2, a3, a4, a5, a6, a7, k1, rfl, h1⟩ := cons8_of_length (n := 16) k h
  obtain ⟨a8, a9, a10, a11, a12, a13, a14, a15, k2, rfl, h2⟩ := cons8_of_length (n := 8) k1 h1
  obtain ⟨a16, a17, a18, a19, a20, a21, a22, a23, k3, rfl, h3⟩ := cons8_of_length (n := 0) k2 h2
  cases List.eq_nil_of_length_eq_zero h3
  exact ⟨a0, a1, a2, a3, a4, a5, a6, a7, a8, a9, a10, a11, a12, a13, a14, a15, a16, a17, a18, a19, a20, a21, a22, a23, rfl⟩

/-- a property of every 24-element list literal holds of every list of length 24 (the tie theorems about the
setters of a 24-byte key evaluate both sides on the literal) -/
@[elab_as_elim] theorem forall_list24 {α} {P : List α → Prop}
    (h : ∀ a0 a1 a2 a3 a4 a5 a6 a7 a8 a9 a10 a11 a12 a13 a14 a15 a16 a17 a18 a19 a20 a21 a22 a23,
      P [a0, a1, a2, a3, a4, a5, a6, a7, a8, a9, a10, a11, a12, a13, a14, a15, a16, a17, a18, a19, a20, a21, a22, a23])
    (k : List α) (hk : k.length = 24) : P k := by
  obtain ⟨a0, a1, a2, a3, a4, a5, a6, a7, a8, a9, a10, a11, a12, a13, a14, a15, a16, a17, a18, a19, a20, a21, a22, a23, rfl⟩ := list24 k hk
  exact h ..

theorem set2 {α} (l : List α) (i : Nat) (a b : α) (h : i + 2 ≤ l.length) :
    (l.set i a).set (i + 1) b = l.take i ++ [a, b] ++ l.drop (i + 2) := by
  induction i generalizing l with
  | zero =>
      match l, h with
      | x :: y :: r, _ => simp
  | succ n ih =>
      match l, h with
      | x :: r, h => simp at h; simp [ih r h]

theorem set4 {α} (l : List α) (i : Nat) (a b c d : α) (h : i + 4 ≤ l.length) :
    (((l.set i a).set (i + 1) b).set (i + 2) c).set (i + 3) d = l.take i ++ [a, b, c, d] ++ l.drop (i + 4) := by
  induction i generalizing l with
  | zero =>
      match l, h with
      | x :: y :: z :: w :: r, _ => simp
  | succ n ih =>
      match l, h with
      | x :: r, h => simp at h; simp [ih r h]

end Emitter.Bits
