/-
  Lemmas for C10: the inductive invariant of the Write/Flush small-step system, a complete
  `Flush()` call, the packet count, the WebSocket invariant, decoding a stream of wire forms.
-/
import Emitter.Model.Delivery
import Emitter.Lemmas.Mqtt

namespace Emitter.Delivery
open Emitter

theorem flat_nil : flat [] = [] := rfl
theorem flat_append (a b : List Item) : flat (a ++ b) = flat a ++ flat b := by simp [flat]
theorem flat_single (t : Tid) (p : Bytes) : flat [(t, p)] = p := by simp [flat]
theorem proj_nil (t : Tid) : proj t [] = [] := rfl
theorem proj_append (t : Tid) (a b : List Item) : proj t (a ++ b) = proj t a ++ proj t b := by simp [proj]
theorem proj_cons (t : Tid) (x : Item) (xs : List Item) :
    proj t (x :: xs) = if x.1 = t then x.2 :: proj t xs else proj t xs := by
  simp only [proj, List.filter_cons, beq_iff_eq]
  split <;> rfl
theorem proj_single_self (t : Tid) (p : Bytes) : proj t [(t, p)] = [p] := by rw [proj_cons, if_pos rfl]; rfl
theorem proj_single_ne (t u : Tid) (p : Bytes) (h : u ≠ t) : proj u [(t, p)] = [] := by
  rw [proj_cons, if_neg (Ne.symm h)]; rfl

theorem mem_proj {x : Item} {l : List Item} (h : x ∈ l) : x.2 ∈ proj x.1 l := by
  simp only [proj, List.mem_map, List.mem_filter]
  exact ⟨x, ⟨h, by simp⟩, rfl⟩

theorem flat_eq_nil {l : List Item} (hne : ∀ x ∈ l, x.2 ≠ []) (h : flat l = []) : l = [] := by
  cases l with
  | nil => rfl
  | cons x xs => exact absurd (List.append_eq_nil_iff.mp h).1 (hne x (List.mem_cons_self ..))

@[simp] theorem upd_same (f : Tid → Thread) (t : Tid) (th : Thread) : upd f t th t = th := by simp [upd]
theorem upd_other (f : Tid → Thread) (t : Tid) (th : Thread) {u : Tid} (h : u ≠ t) : upd f t th u = f u := by
  simp [upd, h]

/-- a property of every thread after an update: of the new thread at `t`, of the old ones elsewhere -/
theorem upd_forall {P : Tid → Thread → Prop} {f : Tid → Thread} {t : Tid} {th : Thread}
    (ht : P t th) (ho : ∀ u, u ≠ t → P u (f u)) (u : Tid) : P u (upd f t th u) := by
  by_cases hu : u = t
  · subst hu
    rw [upd_same]
    exact ht
  · rw [upd_other _ _ _ hu]
    exact ho u hu

theorem upd_upd (f : Tid → Thread) (t : Tid) (a b : Thread) : upd (upd f t a) t b = upd f t b := by
  funext u
  simp only [upd]
  split <;> rfl

theorem upd_self (f : Tid → Thread) (t : Tid) : upd f t (f t) = f := by
  funext u
  simp only [upd]
  split
  · subst_vars
    rfl
  · rfl

/-- every packet of every program is a non-empty byte string (an MQTT packet has ≥ 2 bytes) -/
def NonEmptyProgs (progs : Tid → List Bytes) : Prop := ∀ t, ∀ p ∈ progs t, p ≠ []

/-- `sl` / `ql` are the whole packets (tagged with their writer) that make up the socket
stream / the write queue. `directq`: the direct `socket.Write` of `t` puts `(t, p)` at the end of
`sl`, in front of everything in `ql`, so `order` survives it only if `t` has nothing queued; that
holds because only `t` itself could have queued a packet of `t`, and it saw `Len() = 0`. -/
structure Inv (progs : Tid → List Bytes) (s : State) (sl ql : List Item) : Prop where
  stream : s.stream = flat sl
  queue : s.queue = flat ql
  nonempty : ∀ x ∈ ql, x.2 ≠ []
  prog : ∀ t, (s.threads t).sent ++ (s.threads t).todo = progs t
  order : ∀ t, proj t (sl ++ ql) ++ inflight (s.threads t) = (s.threads t).sent
  directq : ∀ t p, (s.threads t).pc = .direct p → proj t ql = []

theorem inv_init (progs : Tid → List Bytes) : Inv progs (init progs) [] [] := by
  constructor <;> simp [init, flat, proj, inflight]

theorem Inv.mem_prog {progs : Tid → List Bytes} {s : State} {sl ql : List Item} (inv : Inv progs s sl ql)
    {t : Tid} {p : Bytes} (h : p ∈ proj t (sl ++ ql) ++ inflight (s.threads t)) : p ∈ progs t := by
  rw [← inv.prog t, ← inv.order t]
  exact List.mem_append_left _ h

/-- A step replaces one thread `t` and leaves the packets attributed to the other threads where
they are (in the stream, the queue, or moved from the queue to the stream): the per-thread
clauses then only have to be checked for `t`. -/
theorem Inv.update {progs : Tid → List Bytes} {s : State} {sl ql : List Item} (inv : Inv progs s sl ql)
    (t : Tid) (th : Thread) {stream queue : Bytes} {sl' ql' : List Item}
    (hs : stream = flat sl') (hq : queue = flat ql') (hne : ∀ x ∈ ql', x.2 ≠ [])
    (hoth : ∀ u, u ≠ t → proj u (sl' ++ ql') = proj u (sl ++ ql) ∧ (proj u ql = [] → proj u ql' = []))
    (hprog : th.sent ++ th.todo = progs t)
    (hord : proj t (sl' ++ ql') ++ inflight th = th.sent)
    (hdir : ∀ p, th.pc = .direct p → proj t ql' = []) :
    Inv progs { stream := stream, queue := queue, threads := upd s.threads t th } sl' ql' :=
  ⟨hs, hq, hne,
    upd_forall (P := fun u x => x.sent ++ x.todo = progs u) hprog fun u _ => inv.prog u,
    upd_forall (P := fun u x => proj u (sl' ++ ql') ++ inflight x = x.sent) hord fun u hu => by
      rw [(hoth u hu).1]; exact inv.order u,
    upd_forall (P := fun u x => ∀ p, x.pc = .direct p → proj u ql' = []) hdir fun u hu p h =>
      (hoth u hu).2 (inv.directq u p h)⟩

theorem Inv.enqueue {progs : Tid → List Bytes} (hne : NonEmptyProgs progs) {s : State} {sl ql : List Item}
    (inv : Inv progs s sl ql) (t : Tid) (p : Bytes) (pc' : Pc) (hin : inflight (s.threads t) = [p])
    (hout : inflight { s.threads t with pc := pc' } = []) :
    Inv progs { s with queue := s.queue ++ p, threads := upd s.threads t { s.threads t with pc := pc' } }
      sl (ql ++ [(t, p)]) := by
  have hmem : p ∈ inflight (s.threads t) := by rw [hin]; exact List.mem_singleton.mpr rfl
  have hp : p ≠ [] := hne t p (inv.mem_prog (List.mem_append_right _ hmem))
  refine inv.update t _ (hs := inv.stream) (hq := ?_) (hne := ?_) (hoth := fun u hu => ?_) (hprog := inv.prog t)
    (hord := ?_) (hdir := fun q hq => ?_)
  · rw [flat_append, flat_single, inv.queue]
  · intro x hx
    rcases List.mem_append.mp hx with hx | hx
    · exact inv.nonempty x hx
    · rw [List.mem_singleton.mp hx]; exact hp
  · -- a packet of `t` does not show in the projection of another thread
    simp only [proj_append, proj_single_ne t u p hu, List.append_nil, true_and]
    exact id
  · rw [hout, ← inv.order t, hin, ← List.append_assoc, proj_append _ (sl ++ ql), proj_single_self, List.append_nil]
  · -- a thread about to write directly has a packet in flight, `hout` says the new pc has none
    rw [inflight, hq] at hout
    cases hout

theorem Inv.setPc {progs : Tid → List Bytes} {s : State} {sl ql : List Item}
    (inv : Inv progs s sl ql) (t : Tid) (pc' : Pc) (hin : inflight (s.threads t) = inflight { s.threads t with pc := pc' })
    (hd : ∀ q, pc' = .direct q → proj t ql = []) :
    Inv progs { s with threads := upd s.threads t { s.threads t with pc := pc' } } sl ql :=
  inv.update t _ (hs := inv.stream) (hq := inv.queue) (hne := inv.nonempty) (hoth := fun _ _ => ⟨rfl, id⟩)
    (hprog := inv.prog t) (hord := by rw [← hin]; exact inv.order t) (hdir := hd)

theorem inv_step {progs : Tid → List Bytes} (hne : NonEmptyProgs progs) {s s' : State} {sl ql : List Item}
    (inv : Inv progs s sl ql) (a : Action) (h : step? s a = some s') :
    ∃ sl' ql', Inv progs s' sl' ql' := by
  revert h
  -- one case per enabled branch of `step?`; the branches bind `th := s.threads t` by `let`, which
  -- is unfolded so that the hypotheses about `th` rewrite terms about `s.threads t`
  fun_cases step? s a <;> intro h <;> cases h <;> simp +zetaDelta only at *
  next t limited _ p rest htd hpc _ =>  -- `Write` is called
    refine ⟨sl, ql, inv.update t _ (hs := inv.stream) (hq := inv.queue) (hne := inv.nonempty)
      (hoth := fun _ _ => ⟨rfl, id⟩) (hprog := ?_) (hord := ?_) (hdir := ?_)⟩
    · rw [List.append_assoc, ← inv.prog t, htd]; rfl
    · have := inv.order t
      simp only [inflight, hpc, List.append_nil] at this
      cases limited <;> simp [inflight, this]
    · intro q hq
      cases limited <;> cases hq
  next t _ p hpc =>  -- `enqueue`, limited path
    exact ⟨_, _, inv.enqueue hne t p .idle (by rw [inflight, hpc]) rfl⟩
  next t _ p hpc =>  -- `enqueue`, then `Flush`
    exact ⟨_, _, inv.enqueue hne t p .fl (by rw [inflight, hpc]) rfl⟩
  next t _ p hpc =>  -- `Write` reads `Len()`: an empty queue holds no packet, of `t` or anyone
    refine ⟨sl, ql, inv.setPc t _ ?_ ?_⟩
    · by_cases hq : s.queue = [] <;> simp [inflight, hpc, hq]
    · intro q hq
      by_cases hq0 : s.queue = []
      · rw [flat_eq_nil inv.nonempty (inv.queue ▸ hq0)]; rfl
      · simp [hq0] at hq
  next t _ hpc =>  -- `Flush` reads `Len()`
    refine ⟨sl, ql, inv.setPc t _ ?_ ?_⟩
    · by_cases hq : s.queue = [] <;> simp [inflight, hpc, hq]
    · intro q hq
      by_cases hq0 : s.queue = [] <;> simp [hq0] at hq
  next t _ p hpc =>  -- direct `socket.Write`
    have hd : proj t ql = [] := inv.directq t p hpc
    refine ⟨sl ++ [(t, p)], ql, inv.update t _ (hs := ?_) (hq := inv.queue) (hne := inv.nonempty)
      (hoth := fun u hu => ?_) (hprog := inv.prog t) (hord := ?_) (hdir := fun q hq => by cases hq)⟩
    · rw [flat_append, flat_single, inv.stream]
    · simp only [proj_append, proj_single_ne t u p hu, List.append_nil, true_and]
      exact id
    · have := inv.order t
      simp only [inflight, hpc, proj_append, hd, List.append_nil] at this
      simp only [inflight, proj_append, proj_single_self, hd, List.append_nil]
      exact this
  next t _ hpc =>  -- the locked region of `Flush`
    -- the queued packets go behind the stream's, in the same order
    refine ⟨sl ++ ql, [], inv.update t _ (hs := ?_) (hq := rfl) (hne := fun x hx => by cases hx)
      (hoth := fun u _ => ⟨by rw [List.append_nil], fun _ => rfl⟩) (hprog := inv.prog t) (hord := ?_)
      (hdir := fun _ _ => rfl)⟩
    · rw [flat_append, inv.stream, inv.queue]
    · have := inv.order t
      simp only [inflight, hpc] at this
      simp only [inflight, List.append_nil] at this ⊢
      exact this
  next t _ hpc =>  -- timer tick
    exact ⟨sl, ql, inv.setPc t .fl (by simp [inflight, hpc]) (fun q hq => by cases hq)⟩

theorem inv_reachable {progs : Tid → List Bytes} (hne : NonEmptyProgs progs) {s : State}
    (h : Reachable progs s) : ∃ sl ql, Inv progs s sl ql := by
  induction h with
  | init => exact ⟨[], [], inv_init progs⟩
  | step a _ hs ih =>
    obtain ⟨sl, ql, inv⟩ := ih
    exact inv_step hne inv a hs

theorem flushCall_idle {progs : Tid → List Bytes} {s : State} (h : Reachable progs s) {t : Tid}
    (hpc : (s.threads t).pc = .idle) :
    ∃ s', flushCall s t = some s' ∧ Reachable progs s' ∧ s'.threads = s.threads ∧ s'.queue = [] := by
  -- when the call returns `t` is idle again, which is how it started
  have back : ∀ pc, upd (upd s.threads t { s.threads t with pc := pc }) t { s.threads t with pc := .idle } = s.threads := by
    intro pc
    rw [upd_upd, ← hpc]
    exact upd_self _ t
  have e1 : step? s (.tick t) = some { s with threads := upd s.threads t { s.threads t with pc := .fl } } := by
    simp only [step?, hpc]
  have r1 := Reachable.step _ h e1
  by_cases hq : s.queue = []
  · have e2 : step? { s with threads := upd s.threads t { s.threads t with pc := .fl } } (.len t) =
        some s := by
      simp only [step?, upd_same, if_pos hq, back]
    exact ⟨s, by simp only [flushCall, e1, e2, Option.bind_some, hpc], Reachable.step _ r1 e2, rfl, hq⟩
  · have e2 : step? { s with threads := upd s.threads t { s.threads t with pc := .fl } } (.len t) =
        some { s with threads := upd s.threads t { s.threads t with pc := .flw } } := by
      simp only [step?, upd_same, if_neg hq, upd_upd]
    have e3 : step? { s with threads := upd s.threads t { s.threads t with pc := .flw } } (.flush t) =
        some { stream := s.stream ++ s.queue, queue := [], threads := s.threads } := by
      simp only [step?, upd_same, back]
    exact ⟨_, by simp only [flushCall, e1, e2, e3, Option.bind_some, upd_same],
      Reachable.step _ (Reachable.step _ r1 e2) e3, rfl, rfl⟩

def total (n : Nat) (f : Nat → Nat) : Nat := ((List.range n).map f).sum

theorem total_succ (n : Nat) (f : Nat → Nat) : total (n + 1) f = total n f + f n := by
  simp [total, List.range_succ]

theorem total_add (n : Nat) (f g : Nat → Nat) : total n (fun t => f t + g t) = total n f + total n g := by
  induction n with
  | zero => simp [total]
  | succ n ih => rw [total_succ, total_succ, total_succ, ih]; omega

theorem total_indicator (n a : Nat) : total n (fun t => if a = t then 1 else 0) = if a < n then 1 else 0 := by
  induction n with
  | zero => rfl
  | succ n ih =>
    rw [total_succ, ih]
    -- `a < n + 1` is `a < n` or `a = n`, and the two exclude each other
    by_cases h : a = n
    · subst h
      rw [if_neg (Nat.lt_irrefl _), if_pos rfl, if_pos (Nat.lt_succ_self _)]
    · rw [if_neg h, Nat.add_zero]
      by_cases h' : a < n
      · rw [if_pos h', if_pos (Nat.lt_succ_of_lt h')]
      · rw [if_neg h', if_neg (fun h'' => h' (Nat.lt_of_le_of_ne (Nat.le_of_lt_succ h'') h))]

theorem length_eq_total (n : Nat) (l : List Item) (h : ∀ x ∈ l, x.1 < n) :
    l.length = total n (fun t => (proj t l).length) := by
  induction l with
  | nil => simp only [total, proj_nil, List.length_nil, List.map_const', List.sum_replicate_nat, Nat.mul_zero]
  | cons x xs ih =>
    -- `x` adds 1 to the count of thread `x.1` and nothing to the others; the indicator sums to 1
    -- because `x.1 < n`
    have e : (fun t => (proj t (x :: xs)).length) =
        fun t => (if x.1 = t then 1 else 0) + (proj t xs).length := by
      funext t
      rw [proj_cons]
      split
      · rw [List.length_cons, Nat.add_comm]
      · rw [Nat.zero_add]
    rw [e, total_add, total_indicator, if_pos (h x (List.mem_cons_self ..)),
      ← ih (fun y hy => h y (List.mem_cons_of_mem _ hy)), List.length_cons, Nat.add_comm]

structure WsInv (progs : Tid → List Bytes) (s : WsState) (items : List Item) : Prop where
  frames : s.frames = items.map (·.2)
  prog : ∀ t, (s.threads t).sent ++ (s.threads t).todo = progs t
  order : ∀ t, proj t items = (s.threads t).sent

theorem ws_inv_reachable {progs : Tid → List Bytes} {s : WsState} (h : WsReachable progs s) :
    ∃ items, WsInv progs s items := by
  induction h with
  | init => exact ⟨[], rfl, fun _ => rfl, fun _ => rfl⟩
  | step t _ hs ih =>
    obtain ⟨items, inv⟩ := ih
    revert hs
    fun_cases wsStep? _ t <;> intro hs <;> cases hs <;> simp +zetaDelta only at *
    next p rest htd =>
      refine ⟨items ++ [(t, p)], ?_,
        upd_forall (P := fun u x => x.sent ++ x.todo = progs u) ?_ fun u _ => inv.prog u,
        upd_forall (P := fun u x => proj u (items ++ [(t, p)]) = x.sent) ?_ fun u hu => ?_⟩
      · rw [List.map_append, inv.frames]
        rfl
      · rw [List.append_assoc, ← inv.prog t, htd]
        rfl
      · rw [proj_append, proj_single_self, inv.order t]
      · rw [proj_append, proj_single_ne t u p hu, List.append_nil]
        exact inv.order u

theorem encodeWire_ne_nil (p : Mqtt.Packet) : Mqtt.encodeWire p ≠ [] := by
  unfold Mqtt.encodeWire
  split <;> exact List.cons_ne_nil _ _

/-- fuel is counted in bytes: every packet takes at least one -/
theorem decodeAll_encode (max : Nat) (pkts : List Mqtt.Packet)
    (hwf : ∀ p ∈ pkts, Mqtt.wellFormed p = true ∧ (Mqtt.parts p).2.2.length ≤ max) :
    ∀ fuel, ((pkts.map Mqtt.encodeWire).flatten).length ≤ fuel →
      decodeAll max fuel ((pkts.map Mqtt.encodeWire).flatten) = .ok (pkts.map Mqtt.normal) := by
  induction pkts with
  | nil => intro fuel _; cases fuel <;> rfl
  | cons p ps ih =>
    intro fuel hf
    obtain ⟨hw, hm⟩ := hwf p (List.mem_cons_self ..)
    have hdec := Mqtt.decode_encodeWire p hw ((ps.map Mqtt.encodeWire).flatten) max hm
    rw [List.map_cons, List.flatten_cons] at hf ⊢
    rw [List.length_append] at hf
    have hpos := List.length_pos_iff.mpr (encodeWire_ne_nil p)
    cases hb : Mqtt.encodeWire p ++ (ps.map Mqtt.encodeWire).flatten with
    | nil => rw [List.append_eq_nil_iff] at hb; exact absurd hb.1 (encodeWire_ne_nil p)
    | cons b bs =>
      cases fuel with
      | zero => omega
      | succ fuel =>
        -- the head packet took at least one byte, so the fuel left covers the rest
        have hrest : ((ps.map Mqtt.encodeWire).flatten).length ≤ fuel := by omega
        rw [hb] at hdec
        rw [decodeAll, hdec]
        dsimp only
        rw [ih (fun q hq => hwf q (List.mem_cons_of_mem _ hq)) fuel hrest]
        rfl

theorem exists_map_eq {α β γ} (f : α → γ) (g : β → γ) (P : β → Prop) (l : List α)
    (h : ∀ x ∈ l, ∃ y, P y ∧ f x = g y) : ∃ ys : List β, l.map f = ys.map g ∧ ∀ y ∈ ys, P y := by
  induction l with
  | nil => exact ⟨[], rfl, fun _ hy => nomatch hy⟩
  | cons x xs ih =>
    have ⟨⟨y, hy, he⟩, hxs⟩ := List.forall_mem_cons.mp h
    obtain ⟨ys, hm, hall⟩ := ih hxs
    exact ⟨y :: ys, by rw [List.map_cons, List.map_cons, he, hm], List.forall_mem_cons.mpr ⟨hy, hall⟩⟩

/-- every program packet is the wire form of a well-formed MQTT packet whose body the
subscriber's size limit admits -/
def MqttProgs (max : Nat) (progs : Tid → List Bytes) : Prop :=
  ∀ t, ∀ b ∈ progs t, ∃ q, Mqtt.wellFormed q = true ∧ (Mqtt.parts q).2.2.length ≤ max ∧ b = Mqtt.encodeWire q

theorem MqttProgs.nonEmpty {max : Nat} {progs : Tid → List Bytes} (h : MqttProgs max progs) : NonEmptyProgs progs := by
  intro t p hp
  obtain ⟨q, _, _, he⟩ := h t p hp
  rw [he]; exact encodeWire_ne_nil q

end Emitter.Delivery
