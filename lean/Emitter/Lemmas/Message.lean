/-
  Lemmas for C19 (and for C06 / C15, which store and order messages by id): the key order `bytesLt` as a
  strict total order that is numeric order on big-endian words, the layout of `NewID` ids and its readers,
  the uvarint / message / frame codec round trips, `Frame.Split` and the peer send queue.
-/
import Emitter.Model.Message
namespace Emitter.Message
open Emitter

/-! The definitions that theorem statements here and in Props/C19 are written in. -/

/-- ssids are well-formed for `NewID` when they have at least two words -/
def ssidOk (s : Ssid) : Prop := 2 ≤ s.length

/-- lengths that fit a Go `int` -/
def Msg.ok (m : Msg) : Prop :=
  m.id.length < 9223372036854775808 ∧ m.channel.length < 9223372036854775808 ∧
  m.payload.length < 9223372036854775808

def sizeSum (l : List Msg) : Nat := (l.map msgSize).foldl (· + ·) 0

inductive PeerOp where
  | send (active : Bool) (m : Msg)
  | flush
deriving Repr

def Peer.step (max : Nat) (p : Peer) : PeerOp → Peer
  | .send a m => p.send a m
  | .flush => p.flush max

/-- the messages handed to the peer while it was active, in order -/
def accepted : List PeerOp → List Msg
  | [] => []
  | .send true m :: ops => m :: accepted ops
  | _ :: ops => accepted ops

theorem bytesLt_cons (a b : UInt8) (as bs : Bytes) :
    bytesLt (a :: as) (b :: bs) = true ↔ a.toNat < b.toNat ∨ (a.toNat = b.toNat ∧ bytesLt as bs = true) := by
  simp [bytesLt, UInt8.lt_iff_toNat_lt, ← UInt8.toNat_inj]

theorem bytesLt_iff_lt (a b : Bytes) : bytesLt a b = true ↔ a < b := by
  rw [← List.lex_eq_true_iff_lt]
  induction a generalizing b with
  | nil => cases b <;> simp [bytesLt, List.lex]
  | cons x xs ih => cases b with
    | nil => simp [bytesLt, List.lex]
    | cons y ys => simp [bytesLt, List.lex, ih]

theorem bytesLt_irrefl (a : Bytes) : bytesLt a a = false :=
  Bool.eq_false_iff.mpr fun h => List.lt_irrefl a ((bytesLt_iff_lt a a).mp h)

theorem bytesLt_trans {a b c : Bytes} (h₁ : bytesLt a b = true) (h₂ : bytesLt b c = true) : bytesLt a c = true :=
  (bytesLt_iff_lt a c).mpr (List.lt_trans ((bytesLt_iff_lt a b).mp h₁) ((bytesLt_iff_lt b c).mp h₂))

theorem bytesLt_total (a b : Bytes) : bytesLt a b = true ∨ a = b ∨ bytesLt b a = true := by
  rw [bytesLt_iff_lt, bytesLt_iff_lt]
  exact Std.lt_trichotomy a b

theorem bytesLt_asymm {a b : Bytes} (h : bytesLt a b = true) : bytesLt b a = false :=
  Bool.eq_false_iff.mpr fun h' => List.lt_asymm ((bytesLt_iff_lt a b).mp h) ((bytesLt_iff_lt b a).mp h')

theorem bytesLt_ne {a b : Bytes} (h : bytesLt a b = true) : a ≠ b := by
  rintro rfl; rw [bytesLt_irrefl] at h; cases h

theorem bytesLt_append (p a b : Bytes) : bytesLt (p ++ a) (p ++ b) = bytesLt a b := by
  induction p with
  | nil => rfl
  | cons x xs ih => simp [bytesLt, ih]

/-- two-digit numbers in base `P` compare lexicographically -/
theorem lex_step {P x y u v : Nat} (hu : u < P) (hv : v < P) :
    x * P + u < y * P + v ↔ x < y ∨ (x = y ∧ u < v) := by
  rcases Nat.lt_trichotomy x y with h | h | h
  · have : (x + 1) * P ≤ y * P := Nat.mul_le_mul_right _ h
    rw [Nat.add_mul] at this
    exact ⟨fun _ => .inl h, fun _ => by omega⟩
  · subst h
    exact ⟨fun h => .inr ⟨rfl, by omega⟩, fun h => by omega⟩
  · have : (y + 1) * P ≤ x * P := Nat.mul_le_mul_right _ h
    rw [Nat.add_mul] at this
    exact ⟨fun _ => by omega, fun h' => by omega⟩

theorem bytesLt_append_iff : ∀ (a b r₁ r₂ : Bytes), a.length = b.length →
    (bytesLt (a ++ r₁) (b ++ r₂) = true ↔ beNat a < beNat b ∨ (a = b ∧ bytesLt r₁ r₂ = true))
  | [], [], _, _, _ => by simp [beNat]
  | x :: xs, y :: ys, r₁, r₂, h => by
    have hl : xs.length = ys.length := by simpa using h
    rw [List.cons_append, List.cons_append, bytesLt_cons, bytesLt_append_iff xs ys r₁ r₂ hl, beNat_cons, beNat_cons, hl,
      lex_step (hl ▸ beNat_lt xs) (beNat_lt ys), List.cons.injEq, ← UInt8.toNat_inj,
      -- the two sides now differ only in how `∨` and `∧` are bracketed
      and_or_left, or_assoc, and_assoc]

theorem bytesLt_putBe32_iff (x y : UInt32) (r₁ r₂ : Bytes) :
    bytesLt (putBe32 x ++ r₁) (putBe32 y ++ r₂) = true ↔
      x.toNat < y.toNat ∨ (x = y ∧ bytesLt r₁ r₂ = true) := by
  have inj : putBe32 x = putBe32 y ↔ x = y :=
    ⟨fun e => UInt32.toNat_inj.mp (by rw [← beNat_putBe32 x, e, beNat_putBe32]), congrArg putBe32⟩
  rw [bytesLt_append_iff (putBe32 x) (putBe32 y) r₁ r₂ rfl, beNat_putBe32, beNat_putBe32, inj]

theorem word_putBe32_append (w : UInt32) (r : Bytes) : word (putBe32 w ++ r) 0 = w := be32_putBe32 w

theorem word_putBe32_append_add (w : UInt32) (r : Bytes) (i : Nat) :
    word (putBe32 w ++ r) (i + 4) = word r i := rfl

theorem toNat_maxU32_sub (x : UInt32) : (maxU32 - x).toNat = 4294967295 - x.toNat := by
  have := x.toNat_lt
  rw [UInt32.toNat_sub_of_le _ _ (by rw [UInt32.le_iff_toNat_le]; show x.toNat ≤ 4294967295; omega)]
  rfl

theorem relTime_toNat (unix : Int) (h0 : timeOffset ≤ unix) (h1 : unix - timeOffset < 4294967296) :
    ((relTime unix).toNat : Int) = unix - timeOffset := by
  simp [relTime, UInt32.toNat_ofNat']
  omega

theorem ssidBytes_length (s : Ssid) : (ssidBytes s).length = 4 * s.length := by
  induction s with
  | nil => rfl
  | cons w ws ih => rw [ssidBytes, List.length_append, ih, putBe32_length, List.length_cons]; omega

theorem ssidOfBytes_ssidBytes (s : Ssid) : ssidOfBytes s.length (ssidBytes s) = s := by
  induction s with
  | nil => rfl
  | cons w ws ih =>
    simp only [ssidBytes, putBe32, List.length_cons, List.cons_append, List.nil_append, ssidOfBytes, ih,
      be32_putBe32]

theorem word_drop (l : Bytes) (k i : Nat) : word (l.drop k) i = word l (k + i) := by
  simp only [word, List.getD_eq_getElem?_getD, List.getElem?_drop, Nat.add_assoc]

theorem eq_word_append_drop : ∀ (id : Bytes), 4 ≤ id.length → id = putBe32 (word id 0) ++ id.drop 4
  | a :: b :: c :: d :: rest, _ => by rw [word]; exact congrArg (· ++ rest) (putBe32_be32 a b c d).symm

theorem eq_two_words_append_drop (id : Bytes) (h : 8 ≤ id.length) :
    id = putBe32 (word id 0) ++ (putBe32 (word id 4) ++ id.drop 8) := by
  have h2 := eq_word_append_drop (id.drop 4) (by rw [List.length_drop]; omega)
  rw [word_drop, List.drop_drop] at h2
  rw [← h2]
  exact eq_word_append_drop id (by omega)

theorem idTime_eq (id : Bytes) : idTime id = (4294967295 - (word id 4).toNat : Nat) + timeOffset := by
  rw [idTime, toNat_maxU32_sub]

theorem idTime_pos (id : Bytes) : 0 < idTime id := by
  unfold idTime timeOffset
  have : (Generated.msgTimeOffset : Int) = 1514764800 := rfl
  omega

theorem ssidOfBytes_succ (n : Nat) : ∀ (bs : Bytes), 4 ≤ bs.length →
    ssidOfBytes (n + 1) bs = word bs 0 :: ssidOfBytes n (bs.drop 4)
  | _ :: _ :: _ :: _ :: _, _ => rfl

theorem ssidOfBytes_length : ∀ (n : Nat) (bs : Bytes), 4 * n ≤ bs.length → (ssidOfBytes n bs).length = n
  | 0, _, _ => rfl
  | n + 1, bs, h => by
    rw [ssidOfBytes_succ n bs (by omega), List.length_cons,
      ssidOfBytes_length n _ (by rw [List.length_drop]; omega)]

theorem fixed_eq : fixed = 16 := rfl

theorem idSsid_length (id : Bytes) : (idSsid id).length = (id.length - 16) / 4 := by
  unfold idSsid
  rw [fixed_eq]
  apply ssidOfBytes_length
  rw [List.length_drop]
  omega

theorem idContract_eq (id : Bytes) (h : 24 ≤ id.length) : idContract id = (idSsid id).getD 0 0 := by
  obtain ⟨k, hk⟩ := Nat.exists_eq_succ_of_ne_zero
    (Nat.ne_of_gt (Nat.div_pos (show 4 ≤ id.length - 16 by omega) (by decide)))
  rw [idContract, idSsid, fixed_eq, hk, ssidOfBytes_succ k _ (by rw [List.length_drop]; omega), word_drop]
  rfl

theorem words_of_bytesLt {a b : Bytes} (ha : 8 ≤ a.length) (hb : 8 ≤ b.length) (h : bytesLt a b = true) :
    (word a 0).toNat < (word b 0).toNat ∨ (word a 0 = word b 0 ∧ idTime b ≤ idTime a) := by
  rw [eq_two_words_append_drop a ha, eq_two_words_append_drop b hb, bytesLt_putBe32_iff] at h
  rcases h with h | ⟨e, h⟩
  · exact Or.inl h
  · right
    refine ⟨e, ?_⟩
    rw [bytesLt_putBe32_iff] at h
    rw [idTime_eq, idTime_eq]
    rcases h with h | ⟨e', _⟩
    · omega
    · rw [e']; omega

/-- the layout of an id: prefix word, inverted time, inverted sequence number, nonce, then the ssid words -/
theorem newId_eq (s0 s1 : UInt32) (tl : Ssid) (unix : Int) (seq uniq : UInt32) :
    newId (s0 :: s1 :: tl) unix seq uniq = .ok (putBe32 (s0 ^^^ s1) ++ (putBe32 (maxU32 - relTime unix) ++
      (putBe32 (maxU32 - seq) ++ (putBe32 uniq ++ (putBe32 s0 ++ (putBe32 s1 ++ ssidBytes tl)))))) := by
  simp only [newId, ssidBytes, List.append_assoc]

/-- what `newId` wrote, word by word -/
structure IdWords (ssid : Ssid) (unix : Int) (seq uniq : UInt32) (id : Bytes) : Prop where
  pfx : word id 0 = ssid.getD 0 0 ^^^ ssid.getD 1 0
  time : word id 4 = maxU32 - relTime unix
  seqno : word id 8 = maxU32 - seq
  nonce : word id 12 = uniq
  contract : word id 16 = ssid.getD 0 0
  rest : id.drop 16 = ssidBytes ssid
  len : id.length = 16 + 4 * ssid.length
  two : 2 ≤ ssid.length

theorem newId_words {ssid : Ssid} {unix : Int} {seq uniq : UInt32} {id : Bytes}
    (h : newId ssid unix seq uniq = .ok id) : IdWords ssid unix seq uniq id := by
  match ssid, h with
  | s0 :: s1 :: tl, h =>
    rw [newId_eq] at h
    cases h
    -- each word is reached by stepping over the `putBe32`s in front of it
    exact {
      pfx := word_putBe32_append _ _
      time := by (repeat rw [word_putBe32_append_add]); exact word_putBe32_append _ _
      seqno := by (repeat rw [word_putBe32_append_add]); exact word_putBe32_append _ _
      nonce := by (repeat rw [word_putBe32_append_add]); exact word_putBe32_append _ _
      contract := by (repeat rw [word_putBe32_append_add]); exact word_putBe32_append _ _
      rest := rfl
      len := by simp only [List.length_append, ssidBytes_length, putBe32_length, List.length_cons]; omega
      two := by simp }

theorem idTime_newId {ssid : Ssid} {unix : Int} {seq uniq : UInt32} {id : Bytes}
    (h : newId ssid unix seq uniq = .ok id) (h0 : timeOffset ≤ unix) (h1 : unix - timeOffset < 4294967296) :
    idTime id = unix := by
  rw [idTime, (newId_words h).time, toNat_maxU32_sub, toNat_maxU32_sub]
  have := relTime_toNat unix h0 h1
  omega

theorem idSsid_newId {ssid : Ssid} {unix : Int} {seq uniq : UInt32} {id : Bytes}
    (h : newId ssid unix seq uniq = .ok id) : idSsid id = ssid := by
  have hw := newId_words h
  have : (16 + 4 * ssid.length - 16) / 4 = ssid.length := by omega
  rw [idSsid, fixed_eq, hw.rest, hw.len, this, ssidOfBytes_ssidBytes]

theorem newId_wf {ssid : Ssid} {unix : Int} {seq uniq : UInt32} {id : Bytes}
    (h : newId ssid unix seq uniq = .ok id) :
    24 ≤ id.length ∧ word id 0 = (idSsid id).getD 0 0 ^^^ (idSsid id).getD 1 0 := by
  have hw := newId_words h
  have hlen := hw.len
  have htwo := hw.two
  refine ⟨by omega, ?_⟩
  rw [idSsid_newId h]
  exact hw.pfx

theorem newId_ok_iff (ssid : Ssid) (unix : Int) (seq uniq : UInt32) :
    (∃ id, newId ssid unix seq uniq = .ok id) ↔ 2 ≤ ssid.length := by
  constructor
  · rintro ⟨id, h⟩
    exact (newId_words h).two
  · intro h
    match ssid, h with
    | s0 :: s1 :: tl, _ => exact ⟨_, rfl⟩

theorem newId_order {ssid : Ssid} {u₁ u₂ : Int} {q₁ q₂ n₁ n₂ : UInt32} {a b : Bytes}
    (ha : newId ssid u₁ q₁ n₁ = .ok a) (hb : newId ssid u₂ q₂ n₂ = .ok b)
    (hlt : (relTime u₁).toNat < (relTime u₂).toNat ∨ (relTime u₁ = relTime u₂ ∧ q₁.toNat < q₂.toNat)) :
    bytesLt b a = true := by
  match ssid, ha, hb with
  | s0 :: s1 :: tl, ha, hb =>
    rw [newId_eq] at ha hb
    cases ha; cases hb
    rw [bytesLt_append, bytesLt_putBe32_iff, bytesLt_putBe32_iff, toNat_maxU32_sub, toNat_maxU32_sub,
      toNat_maxU32_sub, toNat_maxU32_sub]
    have := (relTime u₂).toNat_lt
    have := q₂.toNat_lt
    rcases hlt with hlt | ⟨e, hq⟩
    · exact .inl (by omega)
    · exact .inr ⟨by rw [e], .inl (by omega)⟩

/-- a final digit (below 128); the tenth may only be 0 or 1 -/
theorem readUvarintF_last (fuel : Nat) (b : UInt8) (rest : Bytes) (shift acc : Nat) (hb : b.toNat < 128)
    (h63 : shift = 63 → b.toNat ≤ 1) :
    readUvarintF (fuel + 1) (b :: rest) shift acc = .ok (acc + b.toNat * 2 ^ shift, rest) := by
  have h1 : b < 0x80 := UInt8.lt_iff_toNat_lt.mpr hb
  have h2 : ¬ ((shift == 63 && b > 1) = true) := by
    rw [Bool.and_eq_true, beq_iff_eq, decide_eq_true_eq, GT.gt, UInt8.lt_iff_toNat_lt]
    exact fun ⟨e, h⟩ => Nat.not_lt.mpr (h63 e) h
  rw [readUvarintF, if_pos h1, if_neg h2]

theorem readUvarintF_cont (fuel : Nat) (b : UInt8) (rest : Bytes) (shift acc : Nat) (hb : 128 ≤ b.toNat) :
    readUvarintF (fuel + 1) (b :: rest) shift acc =
      readUvarintF fuel rest (shift + 7) (acc + (b.toNat - 128) * 2 ^ shift) := by
  have h1 : ¬ b < 0x80 := by rw [UInt8.lt_iff_toNat_lt]; exact Nat.not_lt.mpr hb
  rw [readUvarintF, if_neg h1]

theorem low_digit (n p : Nat) : n % 128 * p + n / 128 * (p * 128) = n * p := by
  rw [Nat.mul_comm p 128, ← Nat.mul_assoc, ← Nat.add_mul, Nat.mul_comm (n / 128), Nat.add_comm, Nat.div_add_mod]

/-- the base-128 digits `uvarintF` writes, read back at any weight: `n < 128 ^ (k + 1)` says that they fit
the fuel, `n * 2 ^ shift < 2 ^ 64` that the value fits a uint64 -/
theorem readUvarintF_uvarintF : ∀ (k n shift acc : Nat) (rest : Bytes),
    n < 128 ^ (k + 1) → n * 2 ^ shift < 2 ^ 64 →
    readUvarintF (k + 1) (uvarintF (k + 1) n ++ rest) shift acc = .ok (acc + n * 2 ^ shift, rest)
  | k, n, shift, acc, rest, h, h64 => by
    unfold uvarintF
    by_cases hlt : n < 128
    · -- one digit; at weight `2 ^ 63` the value bound leaves only 0 and 1
      have e : (UInt8.ofNat n).toNat = n := Nat.mod_eq_of_lt (Nat.lt_trans hlt (by decide))
      have h63 : shift = 63 → n ≤ 1 := by rintro rfl; omega
      rw [if_pos hlt, List.cons_append, List.nil_append,
        readUvarintF_last _ _ _ _ _ (e.symm ▸ hlt) (e.symm ▸ h63), e]
    · -- the low digit with the continuation bit, then the digits of `n / 128` at weight `2 ^ (shift + 7)`
      have e : (UInt8.ofNat (n % 128 + 128)).toNat = n % 128 + 128 :=
        Nat.mod_eq_of_lt (by have := Nat.mod_lt n (by decide : 0 < 128); omega)
      have key : n % 128 * 2 ^ shift + n / 128 * 2 ^ (shift + 7) = n * 2 ^ shift := by
        rw [Nat.pow_add]; exact low_digit n (2 ^ shift)
      rw [if_neg hlt, List.cons_append, readUvarintF_cont _ _ _ _ _ (e.symm ▸ Nat.le_add_left _ _), e]
      match k, h with
      | 0, h => exact absurd h hlt
      | k + 1, h =>
        have hd : n / 128 < 128 ^ (k + 1) := Nat.div_lt_of_lt_mul (by rw [← Nat.pow_succ']; exact h)
        have h64' : n / 128 * 2 ^ (shift + 7) < 2 ^ 64 := Nat.lt_of_le_of_lt (key ▸ Nat.le_add_left _ _) h64
        rw [readUvarintF_uvarintF k (n / 128) (shift + 7) _ rest hd h64', Nat.add_sub_cancel, Nat.add_assoc, key]

theorem readUvarint_uvarint (n : Nat) (h : n < 18446744073709551616) (rest : Bytes) :
    readUvarint (uvarint n ++ rest) = .ok (n, rest) := by
  have := readUvarintF_uvarintF 9 n 0 0 rest (by omega) (by omega)
  simpa [readUvarint, uvarint] using this

theorem readBytes_enc {l : Bytes} (h : l.length < 9223372036854775808) (rest : Bytes) :
    readBytes (uvarint l.length ++ (l ++ rest)) = .ok (l, rest) := by
  unfold readBytes
  rw [readUvarint_uvarint _ (by omega)]
  by_cases h0 : l.length = 0
  · have : l = [] := List.eq_nil_of_length_eq_zero h0
    subst this
    simp
  · have h1 : ¬ (l.length ≥ 9223372036854775808) := by omega
    simp [h0, h1]

theorem decodeMsg_encodeMsg {m : Msg} (h : m.ok) (rest : Bytes) :
    decodeMsg (encodeMsg m ++ rest) = .ok (m, rest) := by
  obtain ⟨h1, h2, h3⟩ := h
  have ht := m.ttl.toNat_lt
  have httl : UInt32.ofNat (m.ttl.toNat % 4294967296) = m.ttl := by
    apply UInt32.toNat.inj
    simp
  unfold decodeMsg encodeMsg
  simp only [List.append_assoc, bind, Outcome.bind, readBytes_enc h1, readBytes_enc h2,
    readBytes_enc h3, readUvarint_uvarint _ (show m.ttl.toNat < 18446744073709551616 by omega), pure, httl]

theorem decodeMsgs_encodeMsgs {f : List Msg} (h : ∀ m ∈ f, m.ok) (rest : Bytes) :
    decodeMsgs f.length (encodeMsgs f ++ rest) = .ok (f, rest) := by
  induction f with
  | nil => rfl
  | cons m ms ih =>
    simp only [List.length_cons, decodeMsgs, encodeMsgs, List.append_assoc,
      decodeMsg_encodeMsg (h m (by simp)), ih (fun x hx => h x (by simp [hx]))]

theorem decodeFrame_encodeFrame {f : List Msg} (h : ∀ m ∈ f, m.ok) (hl : f.length ≤ maxSliceLen) (rest : Bytes) :
    decodeFrame (encodeFrame f ++ rest) = .ok f := by
  have hl' : f.length ≤ 1099511627776 := hl
  unfold decodeFrame encodeFrame
  rw [List.append_assoc, readUvarint_uvarint _ (by omega)]
  by_cases h0 : f.length = 0
  · have : f = [] := List.eq_nil_of_length_eq_zero h0
    subst this; simp
  · have h1 : ¬ (f.length > maxSliceLen) := by omega
    simp [h0, h1, decodeMsgs_encodeMsgs h rest, Outcome.map, Outcome.bind]

theorem sizeSum_nil : sizeSum [] = 0 := rfl

theorem sizeSum_cons (m : Msg) (l : List Msg) : sizeSum (m :: l) = msgSize m + sizeSum l := by
  simp only [sizeSum, ← List.sum_eq_foldl_nat, List.map_cons, List.sum_cons]

theorem splitAux_sound (max sum : Nat) (f : List Msg) :
    (splitAux max sum f).1 ++ (splitAux max sum f).2 = f ∧
    ((splitAux max sum f).1 ≠ [] → sum + sizeSum (splitAux max sum f).1 < max) ∧
    ((splitAux max sum f).1 = [] → f = [] ∨ ∃ m rest, f = m :: rest ∧ max ≤ sum + msgSize m) ∧
    (∀ m rest, (splitAux max sum f).2 = m :: rest →
      max ≤ sum + sizeSum (splitAux max sum f).1 + msgSize m) := by
  -- the arms of `splitAux`: no message left; the next one reaches `max` (the cut); it fits
  fun_induction splitAux max sum f with
  | case1 sum => simp
  | case2 sum x xs hge =>
    refine ⟨rfl, fun h => absurd rfl h, fun _ => Or.inr ⟨x, xs, rfl, hge⟩, ?_⟩
    rintro m rest ⟨⟩
    omega
  | case3 sum x xs hlt r ih =>
    obtain ⟨i1, i2, -, i4⟩ := ih
    dsimp only [r]
    refine ⟨by simp [i1], ?_, nofun, ?_⟩
    · intro _
      rw [sizeSum_cons]
      by_cases he : (splitAux max (sum + msgSize x) xs).1 = []
      · rw [he, sizeSum_nil]; omega
      · have := i2 he; omega
    · intro m rest hm
      have := i4 m rest hm
      rw [sizeSum_cons]; omega

/-- `Frame.Split`: nothing dropped, duplicated or reordered; the head stays below the bound;
the head is empty only for an empty frame or a first message at or above the bound; the head
is maximal. -/
theorem split_sound (f : List Msg) (max : Nat) :
    (split f max).1 ++ (split f max).2 = f ∧
    ((split f max).1 ≠ [] → sizeSum (split f max).1 < max) ∧
    ((split f max).1 = [] → f = [] ∨ ∃ m rest, f = m :: rest ∧ max ≤ msgSize m) ∧
    (∀ m rest, (split f max).2 = m :: rest → max ≤ sizeSum (split f max).1 + msgSize m) := by
  have := splitAux_sound max 0 f
  simp only [Nat.zero_add] at this
  exact this

/-- one flush (any fuel that covers the frame) hands every message of the frame to the transport, once and
in order, in non-empty chunks that respect the bound unless they consist of a single oversize message -/
theorem flushLoop_sound (max : Nat) (fuel : Nat) (f : List Msg) (hf : f.length ≤ fuel) :
    (flushLoop max fuel f).1.flatten = f ∧ (flushLoop max fuel f).2 = [] ∧
    (∀ c ∈ (flushLoop max fuel f).1, c ≠ [] ∧ (sizeSum c < max ∨ ∃ m, c = [m] ∧ max ≤ msgSize m)) := by
  fun_induction flushLoop max fuel f with
  | case1 f =>
    -- no fuel: the frame is empty
    cases List.eq_nil_of_length_eq_zero (Nat.le_zero.mp hf)
    simp
  | case2 fuel f chunk hc hsp =>
    -- `Split` returned nothing at all: the frame is empty
    obtain ⟨s1, -⟩ := split_sound f max
    rw [hsp, List.isEmpty_iff.mp hc] at s1
    simp [← s1]
  | case3 fuel f chunk hc m rest r hsp ih =>
    -- empty head, non-empty rest: the first message is at or above the bound and goes out alone
    obtain ⟨s1, -, -, s4⟩ := split_sound f max
    rw [hsp, List.isEmpty_iff.mp hc] at s1 s4
    cases s1
    have hm : max ≤ sizeSum [] + msgSize m := s4 m rest rfl
    rw [sizeSum_nil, Nat.zero_add] at hm
    obtain ⟨j1, j2, j3⟩ := ih (Nat.le_of_succ_le_succ hf)
    exact ⟨by simp [r, j1], j2, List.forall_mem_cons.mpr ⟨⟨by simp, .inr ⟨m, rfl, hm⟩⟩, j3⟩⟩
  | case4 fuel f chunk rest hsp hc r ih =>
    -- a non-empty head below the bound; the rest is shorter
    obtain ⟨s1, s2, -⟩ := split_sound f max
    rw [hsp] at s1 s2
    dsimp only at s1 s2
    have hne : chunk ≠ [] := fun h => hc (List.isEmpty_iff.mpr h)
    have hlen : rest.length ≤ fuel := by
      have := List.length_pos_iff.mpr hne
      rw [← s1, List.length_append] at hf
      omega
    obtain ⟨j1, j2, j3⟩ := ih hlen
    exact ⟨by simp [r, j1, s1], j2, List.forall_mem_cons.mpr ⟨⟨hne, .inl (s2 hne)⟩, j3⟩⟩

theorem Peer.flush_inv (max : Nat) (p : Peer) :
    (p.flush max).sent.flatten ++ (p.flush max).frame = p.sent.flatten ++ p.frame ∧
    (p.flush max).dropped = p.dropped := by
  unfold Peer.flush
  by_cases he : p.frame.isEmpty = true
  · simp [he]
  · obtain ⟨j1, j2, _⟩ := flushLoop_sound max _ p.frame (Nat.le_refl _)
    simp [he, j1, j2]

/-- for every sequence of the atomic steps of `Peer.Send` and `processSendQueue`: what has
reached the transport followed by what is still queued is exactly the accepted messages -/
theorem queue_exactly_once (max : Nat) (ops : List PeerOp) (p : Peer) :
    ((ops.foldl (Peer.step max) p).sent.flatten ++ (ops.foldl (Peer.step max) p).frame
      = p.sent.flatten ++ p.frame ++ accepted ops) ∧
    ((ops.foldl (Peer.step max) p).dropped = p.dropped) := by
  induction ops generalizing p with
  | nil => simp [accepted]
  | cons op ops ih =>
    simp only [List.foldl_cons]
    obtain ⟨i1, i2⟩ := ih (Peer.step max p op)
    rw [i1, i2]
    cases op with
    | flush =>
      obtain ⟨f1, f2⟩ := Peer.flush_inv max p
      simp only [Peer.step, accepted, f1, f2, and_self]
    | send a m =>
      cases a <;> simp [Peer.step, Peer.send, accepted]

end Emitter.Message
