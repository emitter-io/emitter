/-
  C05 — lemma library, part 2: the routing invariant of one broker and its preservation by
  `Swarm.merge` (D5 repaired) for every walk order of the delta.
-/
import Emitter.Lemmas.ClusterBase

namespace Emitter.Cluster
open Emitter Emitter.Lww

/-- the peer's counter for an ssid as the broker holds it (0 without a peer object) -/
def counterOf (b : Broker) (p : PeerName) (σ : Ssid) : Nat :=
  match mget b.members p with
  | some r => cget r.subs σ
  | none => 0

/-- the routing invariant of one broker: for every remote peer the counters equal the number of
active entries of that peer and ssid in the replicated state, and the remote part of the trie
holds exactly the (ssid, peer) pairs with a positive counter (pointing to the live peer object) -/
structure BInv (b : Broker) : Prop where
  selfRange : b.self < 18446744073709551616
  nodup : NoDup b.state
  nonneg : NonNeg b.state
  noself : mget b.members b.self = none
  cwf : ∀ p r, mget b.members p = some r → CWF r.subs
  counters : ∀ p r, mget b.members p = some r → ∀ σ, cget r.subs σ = cnt b.state p σ
  absent : ∀ p, p ≠ b.self → mget b.members p = none → ∀ σ, cnt b.state p σ = 0
  routes : ∀ σ p g, (σ, p, g) ∈ b.routes ↔ ∃ r, mget b.members p = some r ∧ r.gen = g ∧ 0 < cget r.subs σ

theorem binv_init (p : PeerName) (hp : p < 18446744073709551616) : BInv { self := p } := by
  refine ⟨hp, nodup_nil, nonneg_nil, rfl, ?_, ?_, ?_, ?_⟩
  · intro q r h; simp [mget] at h
  · intro q r h; simp [mget] at h
  · intro q _ _ σ; rfl
  · intro σ q g; simp [mget]

theorem BInv.routes_of {b : Broker} (hb : BInv b) {p : PeerName} {r : PeerRec} (e : mget b.members p = some r)
    (σ : Ssid) (g : Nat) : (σ, p, g) ∈ b.routes ↔ r.gen = g ∧ 0 < cget r.subs σ := by
  rw [hb.routes, e]
  exact ⟨fun ⟨_, h1, h2⟩ => by cases h1; exact h2, fun h => ⟨r, rfl, h⟩⟩

theorem BInv.no_route {b : Broker} (hb : BInv b) {p : PeerName} (e : mget b.members p = none) (σ : Ssid) (g : Nat) :
    (σ, p, g) ∉ b.routes := fun h => by
  obtain ⟨r, hr, _⟩ := (hb.routes σ p g).1 h
  rw [e] at hr; cases hr

def routingFlag (f : Flag) : Prop :=
  f = "C05.online-bypasses-counters" ∨ f = "C05.inactive-peer-transition" ∨
  f = "C05.offline-local-delete" ∨ f = "C05.offline-deletes-own-key"

/-- what a step of the walk leaves alone, and the only flags it may raise (`binv_mergeStep` reads the last field) -/
structure Keeps (b b' : Broker) (fl : List Flag) : Prop where
  state : b'.state = b.state
  self : b'.self = b.self
  locals : b'.locals = b.locals
  flags : ∀ f ∈ fl, routingFlag f

theorem Keeps.refl (b : Broker) : Keeps b b [] := ⟨rfl, rfl, rfl, fun _ h => nomatch h⟩

theorem Keeps.trans {a b c : Broker} {f g : List Flag} (h1 : Keeps a b f) (h2 : Keeps b c g) : Keeps a c (f ++ g) :=
  ⟨h2.state.trans h1.state, h2.self.trans h1.self, h2.locals.trans h1.locals,
    List.forall_mem_append.2 ⟨h1.flags, h2.flags⟩⟩

theorem findPeer_keeps (b : Broker) (bf : Bytes → Bool) (p : PeerName) :
    Keeps b (findPeer b bf p).1 (findPeer b bf p).2 := by
  unfold findPeer
  split
  · exact .refl b
  · refine ⟨rfl, rfl, rfl, fun f hf => ?_⟩
    split at hf
    · exact Or.inl (List.mem_singleton.1 hf)
    · cases hf

theorem onAdded_none (b : Broker) (p : PeerName) (σ : Ssid) (h : mget b.members p = none) :
    onAdded b p σ = (b, []) := by
  unfold onAdded; rw [h]

theorem onRemoved_none (b : Broker) (p : PeerName) (σ : Ssid) (h : mget b.members p = none) :
    onRemoved b p σ = (b, []) := by
  unfold onRemoved; rw [h]

theorem onAdded_some (b : Broker) (p : PeerName) (σ : Ssid) (r : PeerRec) (h : mget b.members p = some r) :
    (onAdded b p σ).1.members = mset b.members p { r with subs := (cinc r.subs σ).1 } ∧
    (onAdded b p σ).1.routes = (if (cinc r.subs σ).2 = true ∧ r.active = true then routeAdd b.routes σ p r.gen else b.routes) ∧
    ((onAdded b p σ).2 = [] → (cinc r.subs σ).2 = true → r.active = true) := by
  unfold onAdded; rw [h]
  cases hc : (cinc r.subs σ).2 <;> cases ha : r.active <;> simp [hc, ha]

theorem onRemoved_some (b : Broker) (p : PeerName) (σ : Ssid) (r : PeerRec) (h : mget b.members p = some r) :
    (onRemoved b p σ).1.members = mset b.members p { r with subs := (cdec r.subs σ).1 } ∧
    (onRemoved b p σ).1.routes = (if (cdec r.subs σ).2 = true ∧ r.active = true then routeDel b.routes σ p else b.routes) ∧
    ((onRemoved b p σ).2 = [] → (cdec r.subs σ).2 = true → r.active = true) := by
  unfold onRemoved; rw [h]
  cases hc : (cdec r.subs σ).2 <;> cases ha : r.active <;> simp [hc, ha]

theorem onAdded_keeps (b : Broker) (p : PeerName) (σ : Ssid) : Keeps b (onAdded b p σ).1 (onAdded b p σ).2 := by
  fun_cases onAdded b p σ
  -- a first subscription of a peer that counts as inactive
  case case3 => exact ⟨rfl, rfl, rfl, fun f hf => Or.inr (Or.inl (List.mem_singleton.1 hf))⟩
  all_goals exact ⟨rfl, rfl, rfl, fun _ h => nomatch h⟩

theorem onRemoved_keeps (b : Broker) (p : PeerName) (σ : Ssid) : Keeps b (onRemoved b p σ).1 (onRemoved b p σ).2 := by
  fun_cases onRemoved b p σ
  -- a last unsubscription of a peer that counts as inactive
  case case3 => exact ⟨rfl, rfl, rfl, fun f hf => Or.inr (Or.inl (List.mem_singleton.1 hf))⟩
  all_goals exact ⟨rfl, rfl, rfl, fun _ h => nomatch h⟩

theorem walkOne_none (bf : Bytes → Bool) (acc : Broker × List Flag) (k : Bytes) (h : decKey k = none) :
    walkOne bf acc k = acc := by
  unfold walkOne; rw [h]

theorem walkOne_self (bf : Bytes → Bool) (acc : Broker × List Flag) (k : Bytes) (sk : SubKey)
    (h : decKey k = some sk) (hs : sk.peer = acc.1.self) : walkOne bf acc k = acc := by
  unfold walkOne; rw [h]; simp [hs]

/-- one iteration for an entry of a remote peer, with `has` read from `acc`'s state: `findPeer` does not change it -/
theorem walkOne_remote (bf : Bytes → Bool) (acc : Broker × List Flag) (k : Bytes) (sk : SubKey)
    (h : decKey k = some sk) (hs : sk.peer ≠ acc.1.self) :
    walkOne bf acc k =
      if bf k = false ∧ has acc.1.state k = true then
        ((onAdded (findPeer acc.1 bf sk.peer).1 sk.peer sk.ssid).1,
          acc.2 ++ (findPeer acc.1 bf sk.peer).2 ++ (onAdded (findPeer acc.1 bf sk.peer).1 sk.peer sk.ssid).2)
      else if bf k = true ∧ has acc.1.state k = false then
        ((onRemoved (findPeer acc.1 bf sk.peer).1 sk.peer sk.ssid).1,
          acc.2 ++ (findPeer acc.1 bf sk.peer).2 ++ (onRemoved (findPeer acc.1 bf sk.peer).1 sk.peer sk.ssid).2)
      else ((findPeer acc.1 bf sk.peer).1, acc.2 ++ (findPeer acc.1 bf sk.peer).2) := by
  have hf : (findPeer acc.1 bf sk.peer).1.state = acc.1.state := (findPeer_keeps acc.1 bf sk.peer).state
  unfold walkOne
  rw [h]
  cases bf k <;> cases h2 : has acc.1.state k <;> simp [hs, h2, hf]

theorem walkOne_keeps (bf : Bytes → Bool) (acc : Broker × List Flag) (k : Bytes) :
    ∃ l, (walkOne bf acc k).2 = acc.2 ++ l ∧ Keeps acc.1 (walkOne bf acc k).1 l := by
  fun_cases walkOne bf acc k
  -- an entry of a remote peer: became active, became inactive, neither
  case case3 => exact ⟨_, List.append_assoc .., (findPeer_keeps ..).trans (onAdded_keeps ..)⟩
  case case4 => exact ⟨_, List.append_assoc .., (findPeer_keeps ..).trans (onRemoved_keeps ..)⟩
  case case5 => exact ⟨_, rfl, findPeer_keeps ..⟩
  -- not a subscription key, or our own
  all_goals exact ⟨[], (List.append_nil _).symm, .refl _⟩

theorem foldl_walkOne_keeps (bf : Bytes → Bool) (ks : List Bytes) (acc : Broker × List Flag) :
    ∃ l, (ks.foldl (walkOne bf) acc).2 = acc.2 ++ l ∧ Keeps acc.1 (ks.foldl (walkOne bf) acc).1 l := by
  refine List.foldlRecOn (motive := fun st : Broker × List Flag => ∃ l, st.2 = acc.2 ++ l ∧ Keeps acc.1 st.1 l) ks _
    ⟨[], (List.append_nil _).symm, .refl _⟩ ?_
  rintro st ⟨l, e, h⟩ k _
  obtain ⟨l1, e1, h1⟩ := walkOne_keeps bf st k
  exact ⟨l ++ l1, by rw [e1, e, List.append_assoc], h.trans h1⟩

theorem walk_keeps (bf : Bytes → Bool) (b : Broker) (ks : List Bytes) : Keeps b (walk bf b ks).1 (walk bf b ks).2 := by
  obtain ⟨l, e, h⟩ := foldl_walkOne_keeps bf ks (b, [])
  unfold walk
  rw [e]; exact h

theorem findPeer_some (b : Broker) (bf : Bytes → Bool) (p : PeerName) (r : PeerRec)
    (h : mget b.members p = some r) : findPeer b bf p = (b, []) := by
  unfold findPeer; rw [h]

theorem findPeer_none (b : Broker) (bf : Bytes → Bool) (p : PeerName) (h : mget b.members p = none) :
    (findPeer b bf p).1.members = b.members ++ [(p, { active := true, gen := b.nextGen, subs := [] })] ∧
    (findPeer b bf p).1.routes = (activeOf b.state p).foldl (fun rs e => routeAdd rs e.2 p b.nextGen) b.routes := by
  unfold findPeer; rw [h]
  exact ⟨rfl, rfl⟩

/-- `onPeerOnline`: the routes after every active entry of the new peer was subscribed (`hrs` is what the induction
keeps; at the call there is no route of `p` at all) -/
theorem mem_foldl_routeAdd {act : List (ConnId × Ssid)} {p : PeerName} {g : Nat} {rs : List Route}
    (hrs : ∀ σ g', (σ, p, g') ∈ rs → g' = g) (σ : Ssid) (p' : PeerName) (g' : Nat) :
    (σ, p', g') ∈ act.foldl (fun rs e => routeAdd rs e.2 p g) rs ↔
      (σ, p', g') ∈ rs ∨ ((∃ c, (c, σ) ∈ act) ∧ p' = p ∧ g' = g) := by
  induction act generalizing rs with
  | nil => simp
  | cons e act ih =>
    obtain ⟨c0, σ0⟩ := e
    have hadd := mem_routeAdd (hrs σ0)
    rw [List.foldl_cons, ih, hadd]
    · -- the head (c0, σ0) accounts for the route (σ0, p, g); the rest regroups the disjunctions
      simp only [List.mem_cons, Prod.mk.injEq, exists_or, exists_eq_left, or_and_right, or_assoc]
    · intro σ1 g1 hm
      rcases (hadd _).mp hm with h | h
      · exact hrs σ1 g1 h
      · cases h; rfl

/-- The invariant in the middle of a walk. `rem` = the keys of the delta that are still to be walked, `M0` = the
memberlist when the walk began, `bf` = activity before the merge, `s'` = the merged state.
`ceq`, `cle`: counter + adds still to walk = count in the merged state + removes still to walk, and the removes to
come never exceed the counter (so the truncated `-` of `Decrement` is exact).
`routes`, second disjunct: a peer created during THIS walk was routed by `onPeerOnline` for every active entry,
those whose add is still in `rem` included.
The walk lemmas carry the hypothesis `hB`: no entry of a peer unknown when the walk began was active before the
merge (`before_of_absent`). -/
structure WInv (bf : Bytes → Bool) (s' : Map) (me : PeerName) (M0 : Members) (b : Broker)
    (rem : List Bytes) : Prop where
  st : b.state = s'
  sf : b.self = me
  noself : mget b.members me = none
  mono : ∀ p, mget b.members p = none → mget M0 p = none
  cwf : ∀ p r, mget b.members p = some r → CWF r.subs
  ceq : ∀ p r, mget b.members p = some r → ∀ σ,
    cget r.subs σ + dplus bf (has s') rem p σ = cnt s' p σ + dminus bf (has s') rem p σ
  cle : ∀ p r, mget b.members p = some r → ∀ σ, dminus bf (has s') rem p σ ≤ cget r.subs σ
  absent : ∀ p, p ≠ me → mget b.members p = none → ∀ σ, cnt s' p σ = dplus bf (has s') rem p σ
  routes : ∀ σ p g, (σ, p, g) ∈ b.routes ↔ ∃ r, mget b.members p = some r ∧ r.gen = g ∧
    (0 < cget r.subs σ ∨ (mget M0 p = none ∧ 0 < dplus bf (has s') rem p σ))

section
variable {bf : Bytes → Bool} {s' : Map} {me : PeerName} {M0 : Members}

theorem WInv.routes_of {b : Broker} {rem : List Bytes} (h : WInv bf s' me M0 b rem) {p : PeerName} {r : PeerRec}
    (e : mget b.members p = some r) (σ : Ssid) (g : Nat) :
    (σ, p, g) ∈ b.routes ↔
      r.gen = g ∧ (0 < cget r.subs σ ∨ (mget M0 p = none ∧ 0 < dplus bf (has s') rem p σ)) := by
  rw [h.routes, e]
  exact ⟨fun ⟨_, h1, h2⟩ => by cases h1; exact h2, fun h => ⟨r, rfl, h⟩⟩

theorem WInv.no_route {b : Broker} {rem : List Bytes} (h : WInv bf s' me M0 b rem) {p : PeerName}
    (e : mget b.members p = none) (σ : Ssid) (g : Nat) : (σ, p, g) ∉ b.routes := fun hr => by
  obtain ⟨r, hr', _⟩ := (h.routes σ p g).1 hr
  rw [e] at hr'; cases hr'

/-- A step of the walk touches one peer `q`, whose member record becomes `o` (`none`: no member). What the
invariant says of the other peers is carried over; what it says of `q` is shown again: `hsome` (in this order: `q`
is not the broker itself, the counters are well formed, `ceq`, `cle` and `routes` at `q`) if it is a member afterwards,
`hnone` (it was unknown when the walk began, `absent` and no route to `q`) if not. -/
theorem WInv.frame {b b' : Broker} {rem rem' : List Bytes} (h : WInv bf s' me M0 b rem) (q : PeerName)
    (o : Option PeerRec) (hst : b'.state = b.state) (hsf : b'.self = b.self)
    (hm : ∀ p, mget b'.members p = if p = q then o else mget b.members p)
    (hr : ∀ σ p g, p ≠ q → ((σ, p, g) ∈ b'.routes ↔ (σ, p, g) ∈ b.routes))
    (hd : ∀ p σ, p ≠ q → dplus bf (has s') rem p σ = dplus bf (has s') rem' p σ ∧
      dminus bf (has s') rem p σ = dminus bf (has s') rem' p σ)
    (hsome : ∀ r, o = some r → q ≠ me ∧ CWF r.subs ∧ ∀ σ,
      cget r.subs σ + dplus bf (has s') rem' q σ = cnt s' q σ + dminus bf (has s') rem' q σ ∧
      dminus bf (has s') rem' q σ ≤ cget r.subs σ ∧
      ∀ g, (σ, q, g) ∈ b'.routes ↔
        r.gen = g ∧ (0 < cget r.subs σ ∨ (mget M0 q = none ∧ 0 < dplus bf (has s') rem' q σ)))
    (hnone : o = none → mget M0 q = none ∧
      ∀ σ, (q ≠ me → cnt s' q σ = dplus bf (has s') rem' q σ) ∧ ∀ g, (σ, q, g) ∉ b'.routes) :
    WInv bf s' me M0 b' rem' := by
  have key : ∀ p, p ≠ q → mget b'.members p = mget b.members p := fun p hp => (hm p).trans (if_neg hp)
  have eq : mget b'.members q = o := (hm q).trans (if_pos rfl)
  have sCwf := fun r (e : o = some r) => (hsome r e).2.1
  have sCeq := fun r (e : o = some r) σ => ((hsome r e).2.2 σ).1
  have sCle := fun r (e : o = some r) σ => ((hsome r e).2.2 σ).2.1
  have sRoute := fun r (e : o = some r) σ g => ((hsome r e).2.2 σ).2.2 g
  have nM0 := fun (e : o = none) => (hnone e).1
  have nAbsent := fun (e : o = none) σ => ((hnone e).2 σ).1
  have nRoute := fun (e : o = none) σ g => ((hnone e).2 σ).2 g
  refine ⟨hst.trans h.st, hsf.trans h.sf, ?_, fun p hp => ?_, fun p r hp => ?_, fun p r hp σ => ?_,
    fun p r hp σ => ?_, fun p hne hp σ => ?_, fun σ p g => ?_⟩
  · by_cases hq : me = q
    · rw [hq, eq]
      cases o with
      | none => rfl
      | some r => exact absurd hq.symm (hsome r rfl).1
    · rw [key me hq]; exact h.noself
  -- field by field: for `q` from `hsome` / `hnone`, for every other peer from `h`
  all_goals by_cases hpq : p = q
  · rw [hpq] at hp ⊢; exact nM0 (eq.symm.trans hp)
  · exact h.mono p ((key p hpq).symm.trans hp)
  · rw [hpq] at hp; exact sCwf r (eq.symm.trans hp)
  · exact h.cwf p r ((key p hpq).symm.trans hp)
  · rw [hpq] at hp ⊢; exact sCeq r (eq.symm.trans hp) σ
  · rw [← (hd p σ hpq).1, ← (hd p σ hpq).2]; exact h.ceq p r ((key p hpq).symm.trans hp) σ
  · rw [hpq] at hp ⊢; exact sCle r (eq.symm.trans hp) σ
  · rw [← (hd p σ hpq).2]; exact h.cle p r ((key p hpq).symm.trans hp) σ
  · rw [hpq] at hp hne ⊢; exact nAbsent (eq.symm.trans hp) σ hne
  · rw [← (hd p σ hpq).1]; exact h.absent p hne ((key p hpq).symm.trans hp) σ
  · rw [hpq, eq]
    cases o with
    | none => exact ⟨fun hh => absurd hh (nRoute rfl σ g), fun ⟨_, h1, _⟩ => nomatch h1⟩
    | some r =>
      rw [sRoute r rfl σ g]
      exact ⟨fun hh => ⟨r, rfl, hh⟩, fun ⟨_, h1, h2⟩ => by cases h1; exact h2⟩
  · rw [hr σ p g hpq, key p hpq, ← (hd p σ hpq).1]; exact h.routes σ p g

theorem winv_skip {b : Broker} {k : Bytes} {rem : List Bytes} (h : WInv bf s' me M0 b (k :: rem))
    (hk : ∀ p σ, p ≠ me → keyIs k p σ = true → bf k = has s' k) :
    WInv bf s' me M0 b rem := by
  -- nobody is touched: the frame is taken at `me`, of which the invariant says nothing (`noself`)
  refine h.frame me none rfl rfl (fun p => ?_) (fun _ _ _ _ => Iff.rfl) (fun p σ hp => ?_) (fun _ h => nomatch h)
    fun _ => ⟨h.mono me h.noself, fun σ => ⟨fun hne => absurd rfl hne, h.no_route h.noself σ⟩⟩
  · split
    · rename_i hp; rw [hp]; exact h.noself
    · rfl
  · rw [dplus_cons, dminus_cons]
    cases hkp : keyIs k p σ
    · simp
    · rw [hk p σ hp hkp]; simp

/-- `findPeer` keeps the walk invariant. A peer created during the walk starts with no counter; by `absent` every
active entry of it is an add still in `rem` (none was active before the merge: `hB`, so `dminus = 0`), hence `ceq` reads
`0 + dplus = dplus + 0`, and `onPeerOnline` has routed exactly the ssids with `dplus > 0`: the second disjunct of
`routes`. -/
theorem winv_findPeer (hB : ∀ p, p ≠ me → mget M0 p = none → ∀ k, keyPeer k p = true → bf k = false)
    {b : Broker} {rem : List Bytes} (h : WInv bf s' me M0 b rem) {q : PeerName} (hq : q ≠ me) :
    WInv bf s' me M0 (findPeer b bf q).1 rem ∧ ∃ r, mget (findPeer b bf q).1.members q = some r := by
  cases hm : mget b.members q with
  | some r =>
    rw [findPeer_some b bf q r hm]
    exact ⟨h, r, hm⟩
  | none =>
    have hk := findPeer_keeps b bf q
    obtain ⟨hmem, hrt⟩ := findPeer_none b bf q hm
    have hM0 : mget M0 q = none := h.mono q hm
    have hget : ∀ p, mget (findPeer b bf q).1.members p =
        if p = q then some { active := true, gen := b.nextGen, subs := [] } else mget b.members p := by
      intro p; rw [hmem]; exact mget_append_new p _ hm
    have hdm : ∀ σ, dminus bf (has s') rem q σ = 0 :=
      fun σ => dminus_zero bf (has s') rem q σ (fun k hk => hB q hq hM0 k (keyPeer_of_keyIs hk))
    -- `onPeerOnline` routes the ssids with an active entry of `q`; by `absent` these are the adds to come
    have hadd : ∀ σ p g, (σ, p, g) ∈ (findPeer b bf q).1.routes ↔
        (σ, p, g) ∈ b.routes ∨ (0 < dplus bf (has s') rem q σ ∧ p = q ∧ g = b.nextGen) := by
      intro σ p g
      rw [hrt, mem_foldl_routeAdd (fun σ g' hr => absurd hr (h.no_route hm σ g')), activeOf_iff_cnt, h.st,
        h.absent q hq hm σ]
    refine ⟨h.frame q _ hk.state hk.self hget (hr := ?_) (hd := fun _ _ _ => ⟨rfl, rfl⟩)
      (hsome := ?_) (hnone := fun h => nomatch h), ?_⟩
    · intro σ p g hp
      rw [hadd]
      exact or_iff_left fun hx => hp hx.2.1
    · intro r hr
      cases hr
      refine ⟨hq, cwf_nil, fun σ => ⟨?_, ?_, fun g => ?_⟩⟩
      · rw [hdm σ, h.absent q hq hm σ]; simp [cget_nil]
      · rw [hdm σ]; exact Nat.zero_le _
      · -- no route to `q` before, no counter after: on both sides only the adds to come are left
        rw [hadd, or_iff_right (h.no_route hm σ g)]
        constructor
        · rintro ⟨hpos, _, hg⟩
          exact ⟨hg.symm, Or.inr ⟨hM0, hpos⟩⟩
        · rintro ⟨hg, hc | ⟨_, hpos⟩⟩
          · exact absurd hc (Nat.lt_irrefl 0)
          · exact ⟨hpos, rfl, hg.symm⟩
    · rw [hget, if_pos rfl]; exact ⟨_, rfl⟩

/-- a counter `c` that stands for `n` entries up to the transitions to come (`dp` adds, `dm` removes) still does
after it has taken in the first of them (`δp`, `δm`) -/
theorem counter_step {c c' n dp dm dp' dm' δp δm : Nat} (hp : dp = δp + dp') (hn : dm = δm + dm')
    (hc : c' = c + δp - δm) (heq : c + dp = n + dm) (hle : dm ≤ c) : c' + dp' = n + dm' ∧ dm' ≤ c' := by
  omega

/-- a transition of the walk touches one cell: the counter of (q, σk), the routes of σk to q and the
transitions of (q, σk) still to come. Everything else the invariant says is carried over; the
cell is shown again. -/
theorem WInv.frame_cell {b b' : Broker} {k : Bytes} {rem : List Bytes} (h : WInv bf s' me M0 b (k :: rem))
    {q : PeerName} {σk : Ssid} (hki : ∀ p σ, keyIs k p σ = true ↔ (p = q ∧ σ = σk))
    {r : PeerRec} (hm : mget b.members q = some r) (cs : Counters)
    (hst : b'.state = b.state) (hsf : b'.self = b.self)
    (hmem : b'.members = mset b.members q { r with subs := cs })
    (hcwf : CWF cs) (hcs : ∀ σ, σ ≠ σk → cget cs σ = cget r.subs σ)
    (hrt : ∀ σ p g, ¬ (p = q ∧ σ = σk) → ((σ, p, g) ∈ b'.routes ↔ (σ, p, g) ∈ b.routes))
    (hc : cget cs σk =
      cget r.subs σk + (if !bf k && has s' k then 1 else 0) - (if bf k && !has s' k then 1 else 0))
    (hroute : ∀ g, (σk, q, g) ∈ b'.routes ↔ r.gen = g ∧
      (0 < cget cs σk ∨ (mget M0 q = none ∧ 0 < dplus bf (has s') rem q σk))) :
    WInv bf s' me M0 b' rem := by
  have hget : ∀ p, mget b'.members p = if p = q then some { r with subs := cs } else mget b.members p := by
    intro p; rw [hmem, mget_mset, hm]; rfl
  -- the head key counts for (q, σk) only
  have hd : ∀ p σ, ¬ (p = q ∧ σ = σk) → dplus bf (has s') (k :: rem) p σ = dplus bf (has s') rem p σ ∧
      dminus bf (has s') (k :: rem) p σ = dminus bf (has s') rem p σ := by
    intro p σ hn
    have hk : keyIs k p σ = false := by
      rw [← Bool.not_eq_true]; exact fun hh => hn ((hki p σ).mp hh)
    rw [dplus_cons, dminus_cons, hk]
    simp
  refine h.frame q _ hst hsf hget (hr := fun σ p g hp => hrt σ p g (fun hh => hp hh.1))
    (hd := fun p σ hp => hd p σ (fun hh => hp hh.1)) (hsome := fun r' hr' => ?_) (hnone := fun h => nomatch h)
  cases hr'
  refine ⟨ne_of_mget hm h.noself, hcwf, fun σ => ?_⟩
  by_cases hσ : σ = σk
  · -- the head key is a transition of (q, σk): it leaves the transitions to come as the counter takes it in
    have hk : keyIs k q σk = true := (hki q σk).2 ⟨rfl, rfl⟩
    have hp := dplus_cons bf (has s') k rem q σk
    have hn := dminus_cons bf (has s') k rem q σk
    rw [hk, Bool.true_and] at hp hn
    have := counter_step hp hn hc (h.ceq q r hm σk) (h.cle q r hm σk)
    rw [hσ]
    exact ⟨this.1, this.2, hroute⟩
  · have d := hd q σ (fun hh => hσ hh.2)
    have := h.routes_of hm σ
    show cget cs σ + _ = _ ∧ _ ≤ cget cs σ ∧ ∀ g, _ ↔ _ ∧ (0 < cget cs σ ∨ _)
    rw [hcs σ hσ, ← d.1, ← d.2]
    exact ⟨h.ceq q r hm σ, h.cle q r hm σ, fun g => (hrt σ q g (fun hh => hσ hh.2)).trans (this g)⟩

theorem winv_onAdded {b : Broker} {k : Bytes} {rem : List Bytes} (h : WInv bf s' me M0 b (k :: rem))
    {q : PeerName} {σk : Ssid} (hki : ∀ p σ, keyIs k p σ = true ↔ (p = q ∧ σ = σk))
    (h1 : bf k = false) (h2 : has s' k = true)
    {r : PeerRec} (hm : mget b.members q = some r) (hfl : (onAdded b q σk).2 = []) :
    WInv bf s' me M0 (onAdded b q σk).1 rem := by
  have hk := onAdded_keeps b q σk
  obtain ⟨hmem, hrt, hflg⟩ := onAdded_some b q σk r hm
  have hact := hflg hfl
  have hcg := cget_cinc r.subs σk
  have hold := h.routes_of hm σk
  -- as a set, the routes gain (σk, q, r.gen)
  have hadd : ∀ x, x ∈ (onAdded b q σk).1.routes ↔ x ∈ b.routes ∨ x = (σk, q, r.gen) := by
    intro x
    rw [hrt]
    by_cases hfirst : (cinc r.subs σk).2 = true
    · -- first subscription: a route of (σk, q) that is there already is of this peer object (`hold`)
      rw [if_pos ⟨hfirst, hact hfirst⟩]
      exact mem_routeAdd (fun g' hg' => ((hold g').mp hg').1.symm) x
    · -- not the first: the counter was positive, and the route is there
      rw [if_neg (fun hh => hfirst hh.1)]
      rw [cinc_first] at hfirst
      have hpos : 0 < cget r.subs σk := Nat.pos_of_ne_zero (fun h0 => hfirst (by rw [h0]; rfl))
      exact (or_iff_left_of_imp fun hx => hx ▸ (hold r.gen).mpr ⟨rfl, Or.inl hpos⟩).symm
  refine h.frame_cell hki hm (cinc r.subs σk).1 hk.state hk.self hmem (hcwf := cwf_cinc _ (h.cwf q r hm))
    (hcs := fun σ hσ => by rw [hcg, if_neg hσ]) (hrt := ?_) (hc := ?_) (hroute := ?_)
  · intro σ p g hn
    rw [hadd, Prod.mk.injEq, Prod.mk.injEq]
    exact or_iff_left fun hx => hn ⟨hx.2.1, hx.1⟩
  · rw [hcg, if_pos rfl, h1, h2]; rfl
  · intro g
    -- the new counter is positive: what is left to show is `∈ routes ↔ r.gen = g`
    rw [hcg, if_pos rfl, hadd, and_iff_left (Or.inl (Nat.succ_pos _))]
    rw [Prod.mk.injEq, Prod.mk.injEq]
    exact ⟨fun hh => hh.elim (fun hh => ((hold g).mp hh).1) fun hh => hh.2.2.symm,
      fun hg => Or.inr ⟨rfl, rfl, hg.symm⟩⟩

theorem winv_onRemoved {b : Broker} {k : Bytes} {rem : List Bytes} (h : WInv bf s' me M0 b (k :: rem))
    {q : PeerName} {σk : Ssid} (hki : ∀ p σ, keyIs k p σ = true ↔ (p = q ∧ σ = σk))
    (h1 : bf k = true) (h2 : has s' k = false) (hM0 : mget M0 q ≠ none)
    {r : PeerRec} (hm : mget b.members q = some r) (hfl : (onRemoved b q σk).2 = []) :
    WInv bf s' me M0 (onRemoved b q σk).1 rem := by
  have hk := onRemoved_keeps b q σk
  obtain ⟨hmem, hrt, hflg⟩ := onRemoved_some b q σk r hm
  have hact := hflg hfl
  have hcwf : CWF r.subs := h.cwf q r hm
  have hcg := fun σ => cget_cdec r.subs σk σ hcwf
  have hold := h.routes_of hm σk
  simp only [hM0, false_and, or_false] at hold
  refine h.frame_cell hki hm (cdec r.subs σk).1 hk.state hk.self hmem (hcwf := cwf_cdec _ hcwf)
    (hcs := fun σ hσ => by rw [hcg, if_neg hσ]) (hrt := ?_) (hc := ?_) (hroute := ?_)
  · intro σ p g hn
    rw [hrt]
    split
    · rw [mem_routeDel]
      exact ⟨fun hh => hh.1, fun hh => ⟨hh, fun hc => hn ⟨hc.2, hc.1⟩⟩⟩
    · exact Iff.rfl
  · rw [hcg, if_pos rfl, h1, h2]; rfl
  · intro g
    simp only [hM0, false_and, or_false]
    rw [hcg, if_pos rfl, hrt]
    rw [cdec_last r.subs σk hcwf] at hact ⊢
    by_cases hlast : cget r.subs σk = 1
    · rw [if_pos ⟨beq_iff_eq.2 hlast, hact (beq_iff_eq.2 hlast)⟩, mem_routeDel]
      exact ⟨fun hh => absurd ⟨rfl, rfl⟩ hh.2, fun hh => by omega⟩
    · rw [if_neg (fun hh => hlast (beq_iff_eq.1 hh.1)), hold]
      exact ⟨fun hh => ⟨hh.1, by omega⟩, fun hh => ⟨hh.1, by omega⟩⟩

theorem winv_walkOne (hB : ∀ p, p ≠ me → mget M0 p = none → ∀ k, keyPeer k p = true → bf k = false)
    (acc : Broker × List Flag) (k : Bytes) (rem : List Bytes)
    (h : WInv bf s' me M0 acc.1 (k :: rem)) (hfl : (walkOne bf acc k).2 = []) :
    WInv bf s' me M0 (walkOne bf acc k).1 rem := by
  cases hd : decKey k with
  | none =>
    rw [walkOne_none bf acc k hd]
    refine winv_skip h fun p σ _ hh => ?_
    rw [keyIs_of_dec_none hd] at hh; cases hh
  | some sk =>
    have hki := keyIs_of_dec hd
    by_cases hs : sk.peer = acc.1.self
    · rw [walkOne_self bf acc k sk hd hs]
      exact winv_skip h fun p σ hp hh => absurd (((hki p σ).mp hh).1.trans (hs.trans h.sf)) hp
    · have hq : sk.peer ≠ me := fun hh => hs (hh.trans h.sf.symm)
      obtain ⟨hW, r, hr⟩ := winv_findPeer hB h hq
      rw [walkOne_remote bf acc k sk hd hs, h.st] at hfl ⊢
      cases h1 : bf k <;> cases h2 : has s' k <;> simp only [h1, h2, and_self, and_false, false_and, if_true, if_false,
        Bool.false_eq_true, Bool.true_eq_false] at hfl ⊢
      · -- inactive before and after: no transition
        exact winv_skip hW fun _ _ _ _ => by rw [h1, h2]
      · -- became active
        exact winv_onAdded hW hki h1 h2 hr (List.append_eq_nil_iff.mp hfl).2
      · -- became inactive; the peer was known when the walk began, or the entry could not have been active (`hB`)
        have hM0 : mget M0 sk.peer ≠ none := by
          intro hn
          have := hB sk.peer hq hn k ((keyPeer_iff k sk.peer).mpr ⟨sk, hd, rfl⟩)
          rw [h1] at this; cases this
        exact winv_onRemoved hW hki h1 h2 hM0 hr (List.append_eq_nil_iff.mp hfl).2
      · -- active before and after: no transition
        exact winv_skip hW fun _ _ _ _ => by rw [h1, h2]

theorem winv_foldl (hB : ∀ p, p ≠ me → mget M0 p = none → ∀ k, keyPeer k p = true → bf k = false)
    (ks : List Bytes) (acc : Broker × List Flag)
    (h : WInv bf s' me M0 acc.1 ks) (hfl : (ks.foldl (walkOne bf) acc).2 = []) :
    WInv bf s' me M0 (ks.foldl (walkOne bf) acc).1 [] := by
  induction ks generalizing acc with
  | nil => exact h
  | cons k ks ih =>
    rw [List.foldl_cons] at hfl ⊢
    obtain ⟨l, hl, _⟩ := foldl_walkOne_keeps bf ks (walkOne bf acc k)
    rw [hl] at hfl
    exact ih (walkOne bf acc k) (winv_walkOne hB acc k ks h (List.append_eq_nil_iff.mp hfl).1)
      (by rw [hl]; exact hfl)

theorem binv_of_winv {b : Broker}
    (h : WInv bf s' me M0 b []) (hself : me < 18446744073709551616)
    (hnd : NoDup s') (hnn : NonNeg s') : BInv b := by
  obtain ⟨hst, hsf, hno, _, hcwf, hceq, _, habs, hroutes⟩ := h
  subst hst hsf
  refine ⟨hself, hnd, hnn, hno, hcwf, ?_, ?_, ?_⟩
  · intro p r hr σ
    have := hceq p r hr σ
    rw [dplus_nil, dminus_nil] at this
    omega
  · intro p hp hm σ
    have := habs p hp hm σ
    rwa [dplus_nil] at this
  · intro σ p g
    -- nothing is left to walk: the second disjunct of `routes` is false
    rw [hroutes]
    simp only [dplus_nil, Nat.lt_irrefl, and_false, or_false]

end

/-- the invariant of a broker is that of a walk with nothing left to walk (`binv_of_winv` is the converse) -/
theorem winv_of_binv (bf : Bytes → Bool) {b : Broker} (hb : BInv b) : WInv bf b.state b.self [] b [] :=
  ⟨rfl, rfl, hb.noself, fun _ _ => rfl, hb.cwf, hb.counters, fun _ _ _ _ => Nat.zero_le _, hb.absent,
    fun σ p g => by rw [hb.routes]; simp only [dplus_nil, Nat.lt_irrefl, and_false, or_false]⟩

/-- a change to the member record of one peer `q` (it becomes `o`) and to the routes to it: the invariant has to be
shown again for `q` only -/
theorem binv_frame {b b' : Broker} (hb : BInv b) (q : PeerName) (o : Option PeerRec)
    (hst : b'.state = b.state) (hsf : b'.self = b.self)
    (hm : ∀ p, mget b'.members p = if p = q then o else mget b.members p)
    (hr : ∀ σ p g, p ≠ q → ((σ, p, g) ∈ b'.routes ↔ (σ, p, g) ∈ b.routes))
    (hsome : ∀ r, o = some r → q ≠ b.self ∧ CWF r.subs ∧ ∀ σ, cget r.subs σ = cnt b.state q σ ∧
      ∀ g, (σ, q, g) ∈ b'.routes ↔ r.gen = g ∧ 0 < cget r.subs σ)
    (hnone : o = none → ∀ σ, (q ≠ b.self → cnt b.state q σ = 0) ∧ ∀ g, (σ, q, g) ∉ b'.routes) : BInv b' := by
  -- with nothing left to walk the transitions to come are 0, and the walk's statement about `q` is the broker's
  have h : WInv (has b.state) b.state b.self [] b' [] := by
    refine (winv_of_binv (has b.state) hb).frame q o hst hsf hm hr (fun _ _ _ => ⟨rfl, rfl⟩) ?_
      (fun ho => ⟨rfl, hnone ho⟩)
    intro r hr
    obtain ⟨hq, hcwf, hσ⟩ := hsome r hr
    refine ⟨hq, hcwf, fun σ => ⟨(hσ σ).1, Nat.zero_le _, fun g => ?_⟩⟩
    rw [(hσ σ).2 g]
    simp only [dplus_nil, Nat.lt_irrefl, and_false, or_false]
  exact binv_of_winv h hb.selfRange hb.nodup hb.nonneg

theorem winv_start (ord : List Bytes → List Bytes) {b : Broker} {r : Map}
    (hb : BInv b) (hr : NoDup r)
    (hord : (ord ((merge b.state r).2.map Prod.fst)).Perm ((merge b.state r).2.map Prod.fst)) :
    WInv (has b.state) (merge b.state r).1 b.self b.members
      { b with state := (merge b.state r).1 } (ord ((merge b.state r).2.map Prod.fst)) := by
  have hcm := cnt_merge b.state r hb.nodup hr
  have hnd : (ord ((merge b.state r).2.map Prod.fst)).Nodup := hord.nodup_iff.mpr (delta_nodup b.state r hr)
  have hle := fun p σ => dminus_le_cnt b.state hb.nodup (has (merge b.state r).1) hnd p σ
  have hp := fun p σ => dplus_perm (has b.state) (has (merge b.state r).1) hord p σ
  have hm := fun p σ => dminus_perm (has b.state) (has (merge b.state r).1) hord p σ
  refine ⟨rfl, rfl, hb.noself, fun _ hh => hh, hb.cwf, ?_, ?_, ?_, ?_⟩
  · intro p rc hrc σ
    have := hcm p σ
    rw [hp, hm, hb.counters p rc hrc σ]
    omega
  · intro p rc hrc σ
    rw [hb.counters p rc hrc σ]; exact hle p σ
  · intro p hps hpm σ
    have h0 := hb.absent p hps hpm σ
    have h1 := hle p σ
    have := hcm p σ
    rw [hp]
    rw [hm] at h1
    omega
  · intro σ p g
    show (σ, p, g) ∈ b.routes ↔ _
    rw [hb.routes]
    -- `M0` is the memberlist itself (no peer was created yet): a member is not unknown to it, so the second disjunct
    -- is false
    refine exists_congr fun rc => and_congr_right fun hrc => and_congr_right fun _ => ?_
    exact (or_iff_left fun hn => nomatch hn.1.symm.trans hrc).symm

theorem before_of_absent {b : Broker} (hb : BInv b) :
    ∀ p, p ≠ b.self → mget b.members p = none → ∀ k, keyPeer k p = true → has b.state k = false := by
  intro p hp hm k hk
  cases hh : has b.state k
  · rfl
  · obtain ⟨sk, hd, hpeer⟩ := (keyPeer_iff k p).mp hk
    have : 0 < cnt b.state p sk.ssid :=
      (cnt_pos_iff_has b.state hb.nodup p sk.ssid).mpr ⟨k, hh, (keyIs_iff k p sk.ssid).mpr ⟨sk, hd, hpeer, rfl⟩⟩
    rw [hb.absent p hp hm sk.ssid] at this
    exact absurd this (Nat.lt_irrefl 0)

/-- `Swarm.merge` preserves the routing invariant, whatever the order in which the delta (a Go
map) is walked, on every payload without repeated keys, unless it processes a first / last
transition of a peer that counts as inactive -/
theorem binv_mergeOrd {ord : List Bytes → List Bytes} {b : Broker} {r : Map}
    (hb : BInv b) (hr : NoDup r)
    (hord : (ord ((merge b.state r).2.map Prod.fst)).Perm ((merge b.state r).2.map Prod.fst))
    (hf : (mergeStepOrd ord b r).flags = []) : BInv (mergeStepOrd ord b r).broker := by
  have hW := winv_foldl (before_of_absent hb) (ord ((merge b.state r).2.map Prod.fst))
    ({ b with state := (merge b.state r).1 }, []) (winv_start ord hb hr hord) hf
  exact binv_of_winv hW hb.selfRange (nodup_merge b.state r hb.nodup) (nonneg_merge b.state r hb.nonneg)

theorem mergeOrd_keeps (ord : List Bytes → List Bytes) (b : Broker) (r : Map) :
    Keeps { b with state := (merge b.state r).1 } (mergeStepOrd ord b r).broker (mergeStepOrd ord b r).flags :=
  walk_keeps ..

end Emitter.Cluster
