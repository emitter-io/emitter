/-
  Facts about lists that several of the lemma files need and core does not have: lists read through a key
  function `f` whose values are pairwise distinct (at most one element per key; `map_replaceKey` / `mem_replaceKey` are about
  `l.map fun y => if f y == f c then c else y`, `forall_replace` about any such replacement), `List.lookup` for any key type
  (`glookup_*`), and what `eraseDups` does.
-/
namespace Emitter
open List

theorem eq_of_nodup_map {α β} (f : α → β) : ∀ {l : List α}, (l.map f).Nodup →
    ∀ {x y : α}, x ∈ l → y ∈ l → f x = f y → x = y
  | a :: l, h, x, y, hx, hy, he => by
      obtain ⟨ha, hl⟩ := nodup_cons.mp h
      rcases mem_cons.mp hx with rfl | hx' <;> rcases mem_cons.mp hy with rfl | hy'
      · rfl
      · exact absurd (by rw [he]; exact mem_map_of_mem hy') ha
      · exact absurd (by rw [← he]; exact mem_map_of_mem hx') ha
      · exact eq_of_nodup_map f hl hx' hy' he

theorem map_replaceKey {α β} [BEq β] [LawfulBEq β] (f : α → β) (c : α) (l : List α) :
    (l.map fun y => if f y == f c then c else y).map f = l.map f := by
  rw [map_map]
  exact map_congr_left fun y _ => by by_cases h : f y = f c <;> simp [h]

theorem mem_replaceKey {α β} [BEq β] [LawfulBEq β] (f : α → β) {c x : α} {l : List α} :
    x ∈ l.map (fun y => if f y == f c then c else y) ↔
      (x = c ∧ ∃ y ∈ l, f y = f c) ∨ (x ∈ l ∧ f x ≠ f c) := by
  rw [mem_map]
  constructor
  · rintro ⟨y, hy, rfl⟩
    by_cases h : f y = f c
    · exact .inl ⟨by simp [h], y, hy, h⟩
    · exact .inr (by simpa [h] using hy)
  · rintro (⟨rfl, y, hy, h⟩ | ⟨hx, h⟩)
    · exact ⟨y, hy, by simp [h]⟩
    · exact ⟨x, hx, by simp [h]⟩

theorem forall_replace {α : Type} {P : α → Prop} {q : α → Bool} {v : α} {l : List α} (h : ∀ x ∈ l, P x) (hv : P v) :
    ∀ x ∈ l.map (fun y => if q y then v else y), P x :=
  forall_mem_map.2 fun y hy => by
    split
    · exact hv
    · exact h y hy

theorem glookup_cons_eq {α β : Type} [BEq α] [LawfulBEq α] [DecidableEq α] (m : List (α × β)) (k k' : α) (v : β) :
    List.lookup k' ((k, v) :: m) = if k' = k then some v else List.lookup k' m := by
  rw [lookup_cons]
  by_cases h : k' = k
  · simp [h]
  · have : (k' == k) = false := by simpa using h
    simp [h, this]

theorem glookup_filter_ne {α β : Type} [BEq α] [LawfulBEq α] [DecidableEq α] (m : List (α × β)) (k k' : α) :
    List.lookup k' (m.filter (fun e => e.1 != k)) = if k' = k then none else List.lookup k' m := by
  induction m with
  | nil => simp
  | cons e m ih =>
    obtain ⟨a, b⟩ := e
    by_cases ha : a = k
    · subst ha
      rw [filter_cons_of_neg (by simp), ih, glookup_cons_eq]
      by_cases h : k' = a <;> simp [h]
    · rw [filter_cons_of_pos (by simpa using ha), glookup_cons_eq, glookup_cons_eq, ih]
      by_cases h : k' = a
      · subst h
        simp [ha]
      · simp [h]

/-- lookup after "drop the old entry of `k`, put `(k, v)` in front" (`Lww.set`, `Cluster.cset`) -/
theorem glookup_set {α β : Type} [BEq α] [LawfulBEq α] [DecidableEq α] (m : List (α × β)) (k k' : α) (v : β) :
    List.lookup k' ((k, v) :: m.filter (fun e => e.1 != k)) = if k' = k then some v else List.lookup k' m := by
  rw [glookup_cons_eq, glookup_filter_ne]
  by_cases h : k' = k <;> simp [h]

theorem mem_of_lookup {α β} [BEq α] [LawfulBEq α] {l : List (α × β)} {k : α} {v : β}
    (h : l.lookup k = some v) : (k, v) ∈ l := by
  obtain ⟨l₁, l₂, rfl, _⟩ := lookup_eq_some_iff.mp h
  simp

theorem lookup_of_mem {α β} [BEq α] [LawfulBEq α] {l : List (α × β)} {k : α} {v : β}
    (hn : (l.map Prod.fst).Nodup) (h : (k, v) ∈ l) : l.lookup k = some v := by
  cases hl : l.lookup k with
  | none => simpa using lookup_eq_none_iff.mp hl _ h
  | some v' =>
    -- `(k, v)` and the `(k, v')` that was found are both in `l` and carry the same key
    have he : (k, v) = (k, v') := eq_of_nodup_map Prod.fst hn h (mem_of_lookup hl) rfl
    rw [(Prod.mk.inj he).2]

/-- a level-by-level prefix test written as a recursion (`f`, through its three equations) is a length comparison and
one `all` over the zipped lists (`Storage.levelsMatch`, `Spec.levelPrefix`) -/
theorem eq_zip_all {α β} (r : α → β → Bool) (f : List α → List β → Bool) (h₁ : ∀ s, f [] s = true)
    (h₂ : ∀ a q, f (a :: q) [] = false) (h₃ : ∀ a q x s, f (a :: q) (x :: s) = (r a x && f q s)) :
    ∀ q s, f q s = (decide (q.length ≤ s.length) && (q.zip s).all fun p => r p.1 p.2)
  | [], s => by simp [h₁]
  | a :: q, [] => by simp [h₂]
  | a :: q, x :: s => by
      simp only [h₃, eq_zip_all r f h₁ h₂ h₃ q s, length_cons, zip_cons_cons, all_cons, Nat.add_le_add_iff_right,
        Bool.and_left_comm]

/-- the middle conjunct only carries the induction; use `nodup_eraseDups` / `eraseDups_length_eq_iff` -/
theorem eraseDups_spec {α} [BEq α] [LawfulBEq α] : (l : List α) →
    l.eraseDups.Nodup ∧ l.eraseDups.length ≤ l.length ∧ (l.eraseDups.length = l.length → l.Nodup)
  | [] => by simp
  | a :: as => by
      have hf : (as.filter fun b => !b == a).length ≤ as.length := length_filter_le ..
      obtain ⟨ih1, ih2, ih3⟩ := eraseDups_spec (as.filter fun b => !b == a)
      rw [eraseDups_cons, length_cons, length_cons, nodup_cons, nodup_cons]
      refine ⟨⟨by simp [mem_eraseDups], ih1⟩, by omega, fun h => ?_⟩
      -- equal lengths: the filter removed nothing, so `a` does not occur in `as`
      have hl : (as.filter fun b => !b == a).length = as.length := by omega
      have hs := filter_eq_self.mpr (length_filter_eq_length_iff.mp hl)
      rw [hs] at ih3 h
      exact ⟨fun ha => by simpa using length_filter_eq_length_iff.mp hl a ha, ih3 (by omega)⟩
termination_by l => l.length
decreasing_by
  simp only [length_cons]
  exact Nat.lt_succ_of_le (length_filter_le ..)

theorem nodup_eraseDups {α} [BEq α] [LawfulBEq α] (l : List α) : l.eraseDups.Nodup :=
  (eraseDups_spec l).1

theorem eraseDups_length_eq_iff {α} [BEq α] [LawfulBEq α] (l : List α) :
    l.eraseDups.length = l.length ↔ l.Nodup :=
  ⟨(eraseDups_spec l).2.2, fun h =>
    ((perm_ext_iff_of_nodup (nodup_eraseDups l) h).mpr fun _ => mem_eraseDups).length_eq⟩

end Emitter
