/-
  One broker, one request: the invariant `Sync` (subscription index = per-connection bookkeeping) and
  what it gives for delivery, presence, replay and the end of a connection (C02, C07, C08, C18).
  `step` is unfolded only by its equations (`step_*`, `next` / `step_fst`), and `step_invariant` lifts an
  invariant of the pieces to `step`; everything else reasons about the pieces `subscribeConn`,
  `unsubscribeConn`, `keep`, `lastWill`, `closeConn`. `admitSub` / `admitPub`
  name the decision the handlers take: the channel parses, the authorizer grants, the key is not an
  extendable one.
-/
import Emitter.Model.Broker
import Emitter.Lemmas.Trie
namespace Emitter.Broker
open Emitter Emitter.Trie Emitter.Security

/-- the connection holds an acknowledged, not yet removed subscription with filter `ssid` -/
def hasCounter (c : Conn) (ssid : Path) : Prop := ∃ ctr ∈ c.counters, ctr.ssid = ssid

def receives (m : Mode) (c : Conn) (ssid : Path) : Prop := ∃ f, hasCounter c f ∧ matchesMode m f ssid = true

/-- the invariant behind C02, C08 and C18: the subscription index and the per-connection
bookkeeping describe the same set of (connection, filter) pairs -/
structure Sync (b : B) : Prop where
  wf : b.trie.root.wf
  names : (b.conns.map (·.name)).Nodup
  keys : ∀ c₁ ∈ b.conns, ∀ c₂ ∈ b.conns, c₁.key = c₂.key → c₁.name = c₂.name
  pairs : ∀ p k, (p, k) ∈ b.trie.root.abs ↔ ∃ c ∈ b.conns, c.alive = true ∧ c.key = k ∧ hasCounter c p
  dead : ∀ c ∈ b.conns, c.alive = false → c.counters = []
  ctrs : ∀ c ∈ b.conns, (c.counters.map (·.ssid)).Nodup ∧ ∀ ctr ∈ c.counters, ctr.count = 1
  count : b.trie.count = b.trie.root.abs.length

/-- the topic a PUBLISH is processed under (`GetLink`) -/
def resolve (c : Conn) (topic : Bytes) : Bytes :=
  if topic.length ≤ 2 then ((c.links.find? (·.1 == topic)).map (·.2)).getD [] else topic

theorem static_ne_invalid {ch : Channel} (hs : ch.ctype = chStatic) : ch.ctype ≠ chInvalid := by
  rw [hs]; decide

/-- A request on `ch` needing `perm` is ACCEPTED: the channel parses, the authorizer grants the
permission and the key is not an extendable one. The test of SUBSCRIBE, UNSUBSCRIBE, link and presence
requests (whatever the permission; for a link after the shortcut name is checked) and, through
`admitPub`, of PUBLISH and the last will. `Spec.granted` and `Spec.acceptedSub` are the same test on
the specification side (`Spec.granted_eq`, `Spec.acceptedSub_eq`). -/
def admitSub (auth : Auth) (banned : List Bytes) (ch : Channel) (perm : UInt8) : Option Grant :=
  if ch.ctype == chInvalid then none else
  match auth banned ch perm with
  | none => none
  | some g => if g.has permExtend then none else some g

/-- … and a PUBLISH (or last will) besides needs a static channel -/
def admitPub (auth : Auth) (banned : List Bytes) (ch : Channel) : Option Grant :=
  if ch.ctype != chStatic then none else admitSub auth banned ch permWrite

theorem admitSub_eq_none {auth : Auth} {banned : List Bytes} {ch : Channel} {perm : UInt8} :
    admitSub auth banned ch perm = none ↔
      ch.ctype = chInvalid ∨ auth banned ch perm = none ∨
        ∃ g, auth banned ch perm = some g ∧ g.has permExtend = true := by
  unfold admitSub
  cases auth banned ch perm
  · simp
  · simpa using Decidable.or_iff_not_imp_left.symm

theorem admitSub_eq_some {auth : Auth} {banned : List Bytes} {ch : Channel} {perm : UInt8} {g : Grant} :
    admitSub auth banned ch perm = some g ↔
      ch.ctype ≠ chInvalid ∧ auth banned ch perm = some g ∧ g.has permExtend = false := by
  unfold admitSub
  cases auth banned ch perm with
  | none => simp
  | some g' =>
      -- the key tested is the key returned
      have hk : (g'.has permExtend = false ∧ g' = g) ↔ (g' = g ∧ g.has permExtend = false) :=
        ⟨fun ⟨hx, e⟩ => ⟨e, e ▸ hx⟩, fun ⟨e, hx⟩ => ⟨e ▸ hx, e⟩⟩
      by_cases hv : ch.ctype = chInvalid <;> simp [hv, hk]

theorem admitPub_eq_some {auth : Auth} {banned : List Bytes} {ch : Channel} {g : Grant} :
    admitPub auth banned ch = some g ↔
      ch.ctype = chStatic ∧ auth banned ch permWrite = some g ∧ g.has permExtend = false := by
  unfold admitPub
  by_cases hs : ch.ctype = chStatic
  · rw [if_neg (by simp [hs]), admitSub_eq_some]
    exact ⟨fun h => ⟨hs, h.2⟩, fun h => ⟨static_ne_invalid hs, h.2⟩⟩
  · rw [if_pos (by simpa using hs)]
    exact ⟨fun h => (by cases h), fun h => absurd h.1 hs⟩

theorem admitPub_eq_none {auth : Auth} {banned : List Bytes} {ch : Channel} :
    admitPub auth banned ch = none ↔
      ch.ctype ≠ chStatic ∨ auth banned ch permWrite = none ∨
        ∃ g, auth banned ch permWrite = some g ∧ g.has permExtend = true := by
  unfold admitPub
  by_cases hs : ch.ctype = chStatic
  · rw [if_neg (by simp [hs]), admitSub_eq_none]
    exact ⟨fun h => h.elim (fun hi => absurd hi (static_ne_invalid hs)) Or.inr,
      fun h => h.elim (fun hn => absurd hs hn) Or.inr⟩
  · rw [if_pos (by simpa using hs)]
    exact ⟨fun _ => Or.inl hs, fun _ => rfl⟩

/-- what `OnPublish` and `OnLastWill` do to the store with an accepted message: it is stored iff its
ttl is positive and the grant has the store permission -/
def keep (b : B) (g : Grant) (ch : Channel) (retain : Bool) (payload : Bytes) : B :=
  if ttlOf retain ch > 0 && g.has permStore then
    storeMsg b ⟨g.contract :: ch.query, ch.channel, payload, ttlOf retain ch⟩
  else b

/-- `b'` (after) has the configuration (ban list, matcher mode, retention) and the connection count of
`b` (before): what no handler but `Close` touches -/
structure Frame (b b' : B) : Prop where
  banned : b'.banned = b.banned
  mode : b'.mode = b.mode
  retain : b'.retain = b.retain
  open_ : b'.open_ = b.open_

theorem Frame.rfl {b : B} : Frame b b := ⟨_root_.rfl, _root_.rfl, _root_.rfl, _root_.rfl⟩

theorem Frame.trans {b b₁ b₂ : B} (h₁ : Frame b b₁) (h₂ : Frame b₁ b₂) : Frame b b₂ :=
  ⟨h₂.banned.trans h₁.banned, h₂.mode.trans h₁.mode, h₂.retain.trans h₁.retain, h₂.open_.trans h₁.open_⟩

theorem keep_frame (b : B) (g : Grant) (ch : Channel) (retain : Bool) (payload : Bytes) :
    Frame b (keep b g ch retain payload) := by
  unfold keep
  split <;> exact ⟨rfl, rfl, rfl, rfl⟩

theorem keep_trie (b : B) (g : Grant) (ch : Channel) (retain : Bool) (payload : Bytes) :
    (keep b g ch retain payload).trie = b.trie := by
  unfold keep
  split <;> rfl

theorem keep_conns (b : B) (g : Grant) (ch : Channel) (retain : Bool) (payload : Bytes) :
    (keep b g ch retain payload).conns = b.conns := by
  unfold keep
  split <;> rfl

theorem nodup_append_singleton {α} {l : List α} {a : α} : (l ++ [a]).Nodup ↔ l.Nodup ∧ a ∉ l := by
  simp only [List.nodup_append, List.nodup_cons, List.not_mem_nil, not_false_eq_true, List.nodup_nil, and_self, true_and,
    List.mem_singleton, forall_eq]
  exact and_congr_right fun _ => ⟨fun h ha => h a ha rfl, fun h b hb e => h (e ▸ hb)⟩

theorem conn?_mem {b : B} {n : String} {c : Conn} (h : b.conn? n = some c) : c ∈ b.conns :=
  List.mem_of_find?_eq_some h

theorem conn?_name {b : B} {n : String} {c : Conn} (h : b.conn? n = some c) : c.name = n := by
  have := List.find?_some h
  simpa using this

theorem eq_of_name_eq {l : List Conn} (h : (l.map (·.name)).Nodup) {c₁ c₂ : Conn}
    (h₁ : c₁ ∈ l) (h₂ : c₂ ∈ l) (hn : c₁.name = c₂.name) : c₁ = c₂ :=
  eq_of_nodup_map Conn.name h h₁ h₂ hn

theorem exists_name_iff {l : List Conn} (h : (l.map (·.name)).Nodup) {c : Conn} (hc : c ∈ l) (P : Conn → Prop) :
    (∃ c' ∈ l, c'.name = c.name ∧ P c') ↔ P c :=
  ⟨fun ⟨_, hc', hn, hp⟩ => eq_of_name_eq h hc' hc hn ▸ hp, fun hp => ⟨c, hc, rfl, hp⟩⟩

theorem conn?_of_mem {b : B} (hnd : (b.conns.map (·.name)).Nodup) {c : Conn} (hc : c ∈ b.conns) :
    b.conn? c.name = some c := by
  unfold B.conn?
  cases hf : b.conns.find? (·.name == c.name) with
  | none =>
      rw [List.find?_eq_none] at hf
      exact absurd (by simp) (hf c hc)
  | some c' =>
      have h1 := List.mem_of_find?_eq_some hf
      have h2 : c'.name = c.name := by simpa using List.find?_some hf
      rw [eq_of_name_eq hnd h1 hc h2]

theorem mem_setConn {b : B} {c x : Conn} :
    x ∈ (b.setConn c).conns ↔ (x = c ∧ ∃ y ∈ b.conns, y.name = c.name) ∨ (x ∈ b.conns ∧ x.name ≠ c.name) :=
  mem_replaceKey Conn.name

theorem setConn_names (b : B) (c : Conn) : (b.setConn c).conns.map (·.name) = b.conns.map (·.name) :=
  map_replaceKey Conn.name c b.conns

theorem setConn_trie (b : B) (c : Conn) : (b.setConn c).trie = b.trie := rfl

theorem setConn_banned (b : B) (c : Conn) : (b.setConn c).banned = b.banned := rfl

theorem setConn_frame (b : B) (c : Conn) : Frame b (b.setConn c) := ⟨rfl, rfl, rfl, rfl⟩

theorem conn?_setConn {b : B} {c : Conn} (hex : ∃ y ∈ b.conns, y.name = c.name) :
    (b.setConn c).conn? c.name = some c := by
  obtain ⟨y, hy, hyn⟩ := hex
  have hp : ∀ x : Conn, ((if x.name == c.name then c else x).name == c.name) = (x.name == c.name) := by
    intro x; by_cases hx : x.name = c.name <;> simp [hx]
  unfold B.conn? B.setConn
  rw [List.find?_map]
  simp only [Function.comp_def, hp]
  cases hf : b.conns.find? (·.name == c.name) with
  | none => exact absurd (by simpa using hyn) (List.find?_eq_none.1 hf y hy)
  | some z => simp [show z.name = c.name by simpa using List.find?_some hf]

theorem others_setConn (b : B) (c' : Conn) (x : Conn) (hx : x.name ≠ c'.name) :
    x ∈ (b.setConn c').conns ↔ x ∈ b.conns :=
  mem_setConn.trans ⟨fun h => h.elim (fun h => absurd (h.1 ▸ rfl) hx) And.left, fun h => Or.inr ⟨h, hx⟩⟩

theorem setConn_conns_congr {b b' : B} (h : b'.conns = b.conns) (c : Conn) :
    (b'.setConn c).conns = (b.setConn c).conns := by
  unfold B.setConn; rw [h]

theorem setConn_setConn (b : B) {c₁ c₂ : Conn} (hn : c₂.name = c₁.name) :
    ((b.setConn c₁).setConn c₂).conns = (b.setConn c₂).conns := by
  simp only [B.setConn, List.map_map]
  apply List.map_congr_left
  intro x _
  by_cases hx : x.name = c₁.name <;> simp [hx, hn]

/-- replacing the record of `c` by one that `g` cannot tell from it changes nothing under `g` -/
theorem setConn_map_same {β} (g : Conn → β) {b : B} {c c' : Conn} (hnd : (b.conns.map (·.name)).Nodup)
    (hc : c ∈ b.conns) (hn : c'.name = c.name) (hg : g c' = g c) :
    (b.setConn c').conns.map g = b.conns.map g := by
  simp only [B.setConn, List.map_map]
  refine List.map_congr_left fun x hx => ?_
  by_cases hxn : x.name = c'.name
  · rw [eq_of_name_eq hnd hx hc (hxn.trans hn)]
    simp [hn, hg]
  · simp [hxn]

theorem setConn_self {b : B} (hnd : (b.conns.map (·.name)).Nodup) {c : Conn} (hc : c ∈ b.conns) :
    (b.setConn c).conns = b.conns := by
  simpa using setConn_map_same id hnd hc rfl rfl

theorem conn?_congr {b b' : B} (h : b'.conns = b.conns) (n : String) : b'.conn? n = b.conn? n := by
  unfold B.conn?; rw [h]

/-- the record found under `c`'s name once it has been replaced by `c'` -/
theorem conn?_replaced {b b' : B} {c c' : Conn} (hc : b.conn? c.name = some c) (hn : c'.name = c.name)
    (hconns : b'.conns = (b.setConn c').conns) : b'.conn? c.name = some c' := by
  rw [conn?_congr hconns, ← hn]
  exact conn?_setConn ⟨c, conn?_mem hc, hn.symm⟩

theorem Sync.self_pairs {b : B} (h : Sync b) {c : Conn} (hc : c ∈ b.conns) (p : Path) :
    (p, c.key) ∈ b.trie.root.abs ↔ c.alive = true ∧ hasCounter c p := by
  rw [h.pairs]
  constructor
  · rintro ⟨c', hc', ha, hk, hp⟩
    have : c' = c := eq_of_name_eq h.names hc' hc (h.keys _ hc' _ hc hk)
    subst this; exact ⟨ha, hp⟩
  · rintro ⟨ha, hp⟩; exact ⟨c, hc, ha, rfl, hp⟩

/-- How `Sync` is re-established: the record of `c₀` is replaced by `c'` (same name, same key) and the
index changes under that key only, to the counters of `c'`. -/
theorem sync_update {b b' : B} {c₀ c' : Conn} (h : Sync b) (hc₀ : c₀ ∈ b.conns)
    (hn : c'.name = c₀.name) (hk : c'.key = c₀.key)
    (hconns : b'.conns = (b.setConn c').conns)
    (hwf : b'.trie.root.wf) (hcount : b'.trie.count = b'.trie.root.abs.length)
    (hother : ∀ p k, k ≠ c₀.key → ((p, k) ∈ b'.trie.root.abs ↔ (p, k) ∈ b.trie.root.abs))
    (hself : ∀ p, (p, c₀.key) ∈ b'.trie.root.abs ↔ c'.alive = true ∧ hasCounter c' p)
    (hdead : c'.alive = false → c'.counters = [])
    (hctrs : (c'.counters.map (·.ssid)).Nodup ∧ ∀ ctr ∈ c'.counters, ctr.count = 1) : Sync b' := by
  -- the records of `b'` are `c'` and the records of `b` not named like `c₀`, which have other keys
  have hmem : ∀ x, x ∈ b'.conns ↔ x = c' ∨ (x ∈ b.conns ∧ x.name ≠ c₀.name) := fun x => by
    rw [hconns, mem_setConn, hn, and_iff_left (⟨c₀, hc₀, rfl⟩ : ∃ y ∈ b.conns, y.name = c₀.name)]
  have hkey : ∀ x ∈ b.conns, x.name ≠ c₀.name → x.key ≠ c₀.key := fun x hx hxn e => hxn (h.keys _ hx _ hc₀ e)
  have hall {P : Conn → Prop} (hnew : P c') (hold : ∀ x ∈ b.conns, P x) : ∀ x ∈ b'.conns, P x :=
    fun x hx => ((hmem x).1 hx).elim (fun e => e ▸ hnew) (fun hx => hold x hx.1)
  refine
    { wf := hwf
      count := hcount
      names := by rw [hconns, setConn_names]; exact h.names
      dead := hall hdead h.dead
      ctrs := hall hctrs h.ctrs
      keys := ?keys
      pairs := ?pairs }
  case keys =>
    intro c₁ h₁ c₂ h₂ hkk
    -- both are `c'`; `c'` and an old record, whose keys differ (`hkey`), twice; two old records
    rcases (hmem _).1 h₁ with rfl | ⟨h₁, hn₁⟩ <;> rcases (hmem _).1 h₂ with rfl | ⟨h₂, hn₂⟩
    · rfl
    · exact absurd (hkk.symm.trans hk) (hkey _ h₂ hn₂)
    · exact absurd (hkk.trans hk) (hkey _ h₁ hn₁)
    · exact h.keys _ h₁ _ h₂ hkk
  case pairs =>
    intro p k
    by_cases hkk : k = c₀.key
    · subst hkk
      rw [hself]
      constructor
      · rintro ⟨ha, hp⟩
        exact ⟨c', (hmem _).2 (Or.inl rfl), ha, hk, hp⟩
      · rintro ⟨c, hc, ha, hck, hp⟩
        rcases (hmem _).1 hc with rfl | ⟨hc, hcn⟩
        · exact ⟨ha, hp⟩
        · exact absurd hck (hkey c hc hcn)
    · rw [hother p k hkk, h.pairs]
      constructor
      · rintro ⟨c, hc, ha, hck, hp⟩
        refine ⟨c, (hmem _).2 (Or.inr ⟨hc, fun hcn => ?_⟩), ha, hck, hp⟩
        rw [eq_of_name_eq h.names hc hc₀ hcn] at hck
        exact hkk hck.symm
      · rintro ⟨c, hc, ha, hck, hp⟩
        rcases (hmem _).1 hc with rfl | ⟨hc, hcn⟩
        · exact absurd (hck.symm.trans hk) hkk
        · exact ⟨c, hc, ha, hck, hp⟩

theorem not_hasCounter_of_nil {c : Conn} (h : c.counters = []) (p : Path) : ¬ hasCounter c p := by
  rintro ⟨ctr, hm, _⟩
  rw [h] at hm
  cases hm

theorem any_ssid_iff (c : Conn) (ssid : Path) :
    c.counters.any (·.ssid == ssid) = true ↔ hasCounter c ssid := by
  simp [List.any_eq_true, hasCounter]

theorem hasCounter_filter (c : Conn) (ssid p : Path) :
    hasCounter { c with counters := c.counters.filter (·.ssid != ssid) } p ↔ p ≠ ssid ∧ hasCounter c p := by
  simp only [hasCounter, List.mem_filter, bne_iff_ne, ne_eq]
  constructor
  · rintro ⟨ctr, ⟨hm, hne⟩, rfl⟩
    exact ⟨hne, ctr, hm, rfl⟩
  · rintro ⟨hne, ctr, hm, rfl⟩
    exact ⟨ctr, ⟨hm, hne⟩, rfl⟩

theorem hasCounter_append (c : Conn) (ssid p : Path) (ch : Bytes) (n : Nat) :
    hasCounter { c with counters := c.counters ++ [⟨ssid, ch, n⟩] } p ↔ hasCounter c p ∨ p = ssid := by
  simp only [hasCounter, List.mem_append, List.mem_singleton, or_and_right, exists_or, exists_eq_left, eq_comm]

/-- Replacing a record by one with the same name, id and counters keeps `Sync`. `alive` may change only
on a record without counters — the last step of `Close`. -/
theorem sync_setConn {b : B} {c c' : Conn} (h : Sync b) (hc : c ∈ b.conns) (hn : c'.name = c.name)
    (hg : c'.guid = c.guid) (hcs : c'.counters = c.counters) (hal : c'.alive = c.alive ∨ c.counters = []) :
    Sync (b.setConn c') := by
  refine sync_update (c₀ := c) h hc hn (by unfold Conn.key; rw [hg]) rfl h.wf h.count
    (hother := fun _ _ _ => Iff.rfl) (hself := fun p => ?_) (hdead := fun hd => ?_) (hctrs := hcs ▸ h.ctrs c hc)
  · show (p, c.key) ∈ b.trie.root.abs ↔ _
    rw [h.self_pairs hc, hasCounter, hasCounter, hcs]
    rcases hal with hal | h0
    · rw [hal]
    · exact ⟨fun e => absurd e.2 (not_hasCounter_of_nil h0 p), fun e => absurd e.2 (not_hasCounter_of_nil h0 p)⟩
  · rw [hcs]
    rcases hal with hal | h0
    · exact h.dead c hc (hal ▸ hd)
    · exact h0

/-- with every count 1 (all `IncrementOnce` produces) the counting branch of `Decrement` is dead -/
theorem dec_spec {cs : List Counter} (ssid : Path) (h1 : ∀ ctr ∈ cs, ctr.count = 1) :
    dec cs ssid = (cs.filter (·.ssid != ssid), cs.any (·.ssid == ssid)) := by
  unfold dec
  cases hf : cs.find? (·.ssid == ssid) with
  | none =>
      rw [List.find?_eq_none] at hf
      have hany : cs.any (·.ssid == ssid) = false := List.any_eq_false.2 hf
      have hfil : cs.filter (·.ssid != ssid) = cs :=
        List.filter_eq_self.2 (by intro a ha; have := hf a ha; simpa using this)
      simp [hany, hfil]
  | some c =>
      have hm := List.mem_of_find?_eq_some hf
      have hp := List.find?_some hf
      have hany : cs.any (·.ssid == ssid) = true := List.any_eq_true.2 ⟨c, hm, hp⟩
      simp [h1 c hm, hany]

theorem subscribeConn_eq (b : B) (c : Conn) (ssid : Path) (channel : Bytes) :
    subscribeConn b c ssid channel =
      if c.counters.any (·.ssid == ssid) then (b, [])
      else
        ({ (b.setConn { c with counters := c.counters ++ [⟨ssid, channel, 1⟩] }) with
            trie := b.trie.subscribe ssid c.key },
         notify { (b.setConn { c with counters := c.counters ++ [⟨ssid, channel, 1⟩] }) with
            trie := b.trie.subscribe ssid c.key } "subscribe"
            { c with counters := c.counters ++ [⟨ssid, channel, 1⟩] } ssid channel) := by
  unfold subscribeConn incOnce
  cases hany : c.counters.any (·.ssid == ssid) <;> simp

theorem unsubscribeConn_eq (b : B) (c : Conn) (ssid : Path) (channel : Bytes)
    (h1 : ∀ ctr ∈ c.counters, ctr.count = 1) :
    unsubscribeConn b c ssid channel =
      if c.counters.any (·.ssid == ssid) then
        ({ (b.setConn { c with counters := c.counters.filter (·.ssid != ssid) }) with
            trie := if (b.trie.root.lookup b.mode ssid).contains c.key then b.trie.unsubscribe ssid c.key else b.trie },
         notify { (b.setConn { c with counters := c.counters.filter (·.ssid != ssid) }) with
            trie := if (b.trie.root.lookup b.mode ssid).contains c.key then b.trie.unsubscribe ssid c.key else b.trie }
            "unsubscribe" { c with counters := c.counters.filter (·.ssid != ssid) } ssid channel)
      else (b.setConn { c with counters := c.counters.filter (·.ssid != ssid) }, []) := by
  unfold unsubscribeConn
  rw [dec_spec _ h1]
  cases hany : c.counters.any (·.ssid == ssid) <;> simp

theorem sync_subscribeConn {b : B} {c : Conn} (h : Sync b) (hc : c ∈ b.conns) (ha : c.alive = true)
    (ssid : Path) (channel : Bytes) : Sync (subscribeConn b c ssid channel).1 := by
  rw [subscribeConn_eq]
  split
  · exact h
  · rename_i hany
    have hnc : ¬ hasCounter c ssid := fun hh => hany ((any_ssid_iff c ssid).2 hh)
    obtain ⟨hwf, hcount, hm⟩ := T.subscribe_sync b.trie ssid c.key h.wf h.count
    obtain ⟨hnd, hc1⟩ := h.ctrs c hc
    refine sync_update (c' := { c with counters := c.counters ++ [⟨ssid, channel, 1⟩] }) h hc rfl rfl rfl hwf hcount
      (hother := fun p k hk => (hm _).trans ⟨fun e => e.resolve_left (fun e => hk (Prod.mk.inj e).2), Or.inr⟩)
      (hself := fun p => by rw [hm, h.self_pairs hc, hasCounter_append]; simp [ha, or_comm])
      (hdead := fun hd => Bool.noConfusion (ha.symm.trans hd)) (hctrs := ⟨?_, ?_⟩)
    · rw [List.map_append, List.map_singleton, nodup_append_singleton]
      exact ⟨hnd, by simpa [hasCounter] using hnc⟩
    · intro ctr hm
      rcases List.mem_append.1 hm with hm | hm
      · exact hc1 ctr hm
      · rw [List.mem_singleton.1 hm]

theorem sync_unsubscribeConn {b : B} {c : Conn} (h : Sync b) (hc : c ∈ b.conns) (ha : c.alive = true)
    (ssid : Path) (channel : Bytes) : Sync (unsubscribeConn b c ssid channel).1 := by
  obtain ⟨hnd, hc1⟩ := h.ctrs c hc
  rw [unsubscribeConn_eq _ _ _ _ hc1]
  have hctrs' : ((c.counters.filter (·.ssid != ssid)).map (·.ssid)).Nodup ∧
      ∀ ctr ∈ c.counters.filter (·.ssid != ssid), ctr.count = 1 :=
    ⟨List.Nodup.sublist (List.filter_sublist.map _) hnd, fun ctr hm => hc1 ctr (List.mem_filter.1 hm).1⟩
  have hd : c.alive = false → c.counters.filter (·.ssid != ssid) = [] :=
    fun hd => Bool.noConfusion (ha.symm.trans hd)
  split
  · rename_i hany
    have hin : (ssid, c.key) ∈ b.trie.root.abs := (h.self_pairs hc ssid).2 ⟨ha, (any_ssid_iff c ssid).1 hany⟩
    -- held, so in the index, so the lookup of `ssid` itself returns the key (`matches_self`): the model
    -- takes the `unsubscribe` branch
    have hpres : (b.trie.root.lookup b.mode ssid).contains c.key = true := by
      rw [List.contains_iff_mem, lookup_spec]
      exact ⟨ssid, hin, matches_self _ _⟩
    simp only [hpres, if_true]
    obtain ⟨hwf, hcount, hm⟩ := T.unsubscribe_sync b.trie ssid c.key h.wf h.count
    exact sync_update (c' := { c with counters := c.counters.filter (·.ssid != ssid) }) h hc rfl rfl rfl hwf hcount
      (hother := fun p k hk => (hm _).trans ⟨And.left, fun e => ⟨e, fun e' => hk (Prod.mk.inj e').2⟩⟩)
      (hself := fun p => by rw [hm, h.self_pairs hc, hasCounter_filter]; simp [ha, and_comm])
      (hdead := hd) (hctrs := hctrs')
  · rename_i hany
    refine sync_setConn h hc (hn := rfl) (hg := rfl) (hcs := List.filter_eq_self.2 fun a ha' => ?_)
      (hal := Or.inl rfl)
    simpa using fun e => hany (List.any_eq_true.2 ⟨a, ha', by simpa using e⟩)

theorem Sync.congr {b b' : B} (h : Sync b) (ht : b'.trie = b.trie) (hc : b'.conns = b.conns) : Sync b' :=
  ⟨ht ▸ h.wf, hc ▸ h.names, hc ▸ h.keys, by rw [hc, ht]; exact h.pairs, hc ▸ h.dead, hc ▸ h.ctrs, ht ▸ h.count⟩

theorem subscribeConn_frame (b : B) (c : Conn) (ssid : Path) (ch : Bytes) :
    Frame b (subscribeConn b c ssid ch).1 ∧ (subscribeConn b c ssid ch).1.store = b.store := by
  rw [subscribeConn_eq]
  split <;> exact ⟨⟨rfl, rfl, rfl, rfl⟩, rfl⟩

theorem unsubscribeConn_frame (b : B) (c : Conn) (ssid : Path) (ch : Bytes) :
    Frame b (unsubscribeConn b c ssid ch).1 ∧ (unsubscribeConn b c ssid ch).1.store = b.store := by
  unfold unsubscribeConn
  rcases dec c.counters ssid with ⟨cs, last⟩
  cases last <;> exact ⟨⟨rfl, rfl, rfl, rfl⟩, rfl⟩

/-- `OnLastWill` is a publish of the announced will, decided like any publish -/
theorem lastWill_eq (auth : Auth) (b : B) (c : Conn) :
    lastWill auth b c =
      if c.hasConnect && c.willFlag then
        match admitPub auth b.banned (parseChannel c.willTopic) with
        | some g =>
            (keep b g (parseChannel c.willTopic) c.willRetain c.willMessage,
             deliver (keep b g (parseChannel c.willTopic) c.willRetain c.willMessage)
               (g.contract :: (parseChannel c.willTopic).query) none
               (.pub (parseChannel c.willTopic).channel c.willMessage))
        | none => (b, [])
      else (b, []) := by
  unfold lastWill admitPub admitSub
  dsimp only
  cases c.hasConnect <;> cases c.willFlag <;> try rfl
  by_cases hs : (parseChannel c.willTopic).ctype = chStatic
  · simp only [hs, bne_self_eq_false, Bool.not_true, Bool.or_self, Bool.and_self, Bool.false_eq_true, if_false,
      if_true]
    cases auth b.banned (parseChannel c.willTopic) permWrite with
    | none => rfl
    | some g => cases hx : g.has permExtend <;> simp only [hx, if_true, Bool.false_eq_true, if_false] <;> rfl
  · have hs' : ((parseChannel c.willTopic).ctype != chStatic) = true := by simpa using hs
    simp only [hs', Bool.not_true, Bool.or_self, Bool.and_self, Bool.false_eq_true, if_false, if_true]

theorem lastWill_fst (auth : Auth) (b : B) (c : Conn) :
    (lastWill auth b c).1 = b ∨
      ∃ g, (lastWill auth b c).1 = keep b g (parseChannel c.willTopic) c.willRetain c.willMessage := by
  rw [lastWill_eq]
  split
  · split
    · exact Or.inr ⟨_, rfl⟩
    · exact Or.inl rfl
  · exact Or.inl rfl

theorem lastWill_frame (auth : Auth) (b : B) (c : Conn) : Frame b (lastWill auth b c).1 := by
  rcases lastWill_fst auth b c with h | ⟨g, h⟩ <;> rw [h]
  · exact .rfl
  · exact keep_frame b g _ _ _

theorem lastWill_trie (auth : Auth) (b : B) (c : Conn) : (lastWill auth b c).1.trie = b.trie := by
  rcases lastWill_fst auth b c with h | ⟨g, h⟩ <;> rw [h]
  exact keep_trie b g _ _ _

theorem lastWill_conns (auth : Auth) (b : B) (c : Conn) : (lastWill auth b c).1.conns = b.conns := by
  rcases lastWill_fst auth b c with h | ⟨g, h⟩ <;> rw [h]
  exact keep_conns b g _ _ _

/-- the body of the fold in `closeConn`, named so that `closeConn_eq` holds by `rfl` -/
def closeF (name : String) (acc : B × Out) (ctr : Counter) : B × Out :=
  match acc.1.conn? name with
  | some cur => let r := unsubscribeConn acc.1 cur ctr.ssid ctr.channel; (r.1, acc.2 ++ r.2)
  | none => acc

theorem closeConn_eq (auth : Auth) (b : B) (c : Conn) :
    closeConn auth b c =
      let F := c.counters.foldl (closeF c.name) ({ b with open_ := b.open_ - 1 }, [])
      let c' := (F.1.conn? c.name).getD c
      let w := lastWill auth F.1 c'
      (w.1.setConn { c' with alive := false }, F.2 ++ w.2) := rfl

theorem unsubscribeConn_conns (b : B) (c : Conn) (σ : Path) (ch : Bytes) :
    (unsubscribeConn b c σ ch).1.conns = (b.setConn { c with counters := (dec c.counters σ).1 }).conns := by
  unfold unsubscribeConn
  rcases dec c.counters σ with ⟨cs, last⟩
  cases last <;> rfl

/-- The unsubscribes of `Close`. The first three parts need only distinct names (all that `step_abs`
has): the record of `cur` ends with some counters `cs'`, nothing else but the index changes. Under
`Sync`, `cs` being the counters of `cur`, the invariant is kept and no counter is left. -/
theorem closeFold_spec (name : String) : ∀ (cs : List Counter) (acc : B × Out) (cur : Conn),
    (acc.1.conns.map (·.name)).Nodup → acc.1.conn? name = some cur →
    ∃ cs', (cs.foldl (closeF name) acc).1.conns = (acc.1.setConn { cur with counters := cs' }).conns ∧
      Frame acc.1 (cs.foldl (closeF name) acc).1 ∧ (cs.foldl (closeF name) acc).1.store = acc.1.store ∧
      (Sync acc.1 → cur.alive = true → cur.counters = cs → Sync (cs.foldl (closeF name) acc).1 ∧ cs' = [])
  | [], acc, cur, hnd, hc =>
      ⟨cur.counters, (setConn_self hnd (conn?_mem hc)).symm, .rfl, rfl, fun h _ h0 => ⟨h, h0⟩⟩
  | ctr :: rest, acc, cur, hnd, hc => by
      have hm := conn?_mem hc
      have hstep : (closeF name acc ctr).1 = (unsubscribeConn acc.1 cur ctr.ssid ctr.channel).1 := by
        simp only [closeF, hc]
      have hconns : (closeF name acc ctr).1.conns =
          (acc.1.setConn { cur with counters := (dec cur.counters ctr.ssid).1 }).conns := by
        rw [hstep, unsubscribeConn_conns]
      -- one unsubscribe leaves `cur` with the counters `dec` returns under `name`; go on from there
      obtain ⟨cs', hFconns, hframe, hstore, hsync⟩ := closeFold_spec name rest (closeF name acc ctr)
        { cur with counters := (dec cur.counters ctr.ssid).1 }
        (by rw [hconns, setConn_names]; exact hnd)
        (by rw [conn?_congr hconns, ← conn?_name hc]
            exact conn?_setConn (c := { cur with counters := _ }) ⟨cur, hm, rfl⟩)
      rw [List.foldl_cons]
      refine ⟨cs', by rw [hFconns, setConn_conns_congr hconns]; exact setConn_setConn _ rfl,
        Frame.trans (by rw [hstep]; exact (unsubscribeConn_frame _ _ _ _).1) hframe,
        hstore.trans (by rw [hstep]; exact (unsubscribeConn_frame _ _ _ _).2), fun h ha hcs => ?_⟩
      obtain ⟨hnd', hc1⟩ := h.ctrs cur hm
      refine hsync (by rw [hstep]; exact sync_unsubscribeConn h hm ha _ _) ha ?_
      -- counts are 1 and ssids distinct, so `dec` drops exactly the head counter
      rw [hcs] at hnd'
      have hne : ∀ a ∈ rest, (a.ssid != ctr.ssid) = true := fun a ha' => by
        simpa using fun (e : a.ssid = ctr.ssid) => (List.nodup_cons.1 hnd').1 (List.mem_map.2 ⟨a, ha', e⟩)
      show (dec cur.counters ctr.ssid).1 = rest
      rw [dec_spec _ hc1, hcs, List.filter_cons, List.filter_eq_self.2 hne]
      simp

/-- `Close` in normal form: the unsubscribes leave `F` (one open connection less, `c` with counters
`cs'`, the index changed), the last will is published from `F`, the record is marked dead. Only
`sync` needs the invariant; the rest holds under distinct names (all that `step_abs` has). -/
structure CloseNormal (auth : Auth) (b : B) (c : Conn) (cs' : List Counter) (F : B) : Prop where
  conns : F.conns = (b.setConn { c with counters := cs' }).conns
  frame : Frame { b with open_ := b.open_ - 1 } F
  store : F.store = b.store
  eq : (closeConn auth b c).1 =
    (lastWill auth F { c with counters := cs' }).1.setConn { c with counters := cs', alive := false }
  sync : Sync b → c.alive = true → Sync F ∧ cs' = []

theorem closeConn_normal (auth : Auth) {b : B} {c : Conn} (hnd : (b.conns.map (·.name)).Nodup)
    (hc : b.conn? c.name = some c) : ∃ cs' F, CloseNormal auth b c cs' F := by
  obtain ⟨cs', hFconns, hframe, hstore, hsync⟩ :=
    closeFold_spec c.name c.counters ({ b with open_ := b.open_ - 1 }, []) c hnd hc
  refine ⟨cs', _, hFconns, hframe, hstore, ?_, fun h ha => hsync (h.congr rfl rfl) ha rfl⟩
  have hq : (c.counters.foldl (closeF c.name) ({ b with open_ := b.open_ - 1 }, [])).1.conn? c.name =
      some { c with counters := cs' } :=
    conn?_replaced hc rfl hFconns
  simp only [closeConn_eq, hq, Option.getD_some]

theorem closeConn_spec (auth : Auth) {b : B} {c : Conn} (h : Sync b) (hc : b.conn? c.name = some c)
    (ha : c.alive = true) :
    Sync (closeConn auth b c).1 ∧
    (closeConn auth b c).1.conns = (b.setConn { c with counters := [], alive := false }).conns ∧
    Frame { b with open_ := b.open_ - 1 } (closeConn auth b c).1 := by
  obtain ⟨cs', F, n⟩ := closeConn_normal auth h.names hc
  obtain ⟨hsF, rfl⟩ := n.sync h ha
  have wconns := lastWill_conns auth F { c with counters := [] }
  have hcm : ({ c with counters := [] } : Conn) ∈ (lastWill auth F { c with counters := [] }).1.conns :=
    conn?_mem (conn?_replaced hc rfl (wconns.trans n.conns))
  rw [n.eq]
  exact ⟨sync_setConn (hsF.congr (lastWill_trie auth F _) wconns) hcm (hn := rfl) (hg := rfl) (hcs := rfl)
      (hal := Or.inr rfl),
    (setConn_conns_congr (wconns.trans n.conns) _).trans (setConn_setConn _ rfl),
    (n.frame.trans (lastWill_frame auth F _)).trans (setConn_frame _ _)⟩

/-- `b'` differs from `b` only in the record of the connection `c` (found under its name), whose
connection id is unchanged, which is open afterwards iff `al`, and which then holds exactly the
filters satisfying `P` -/
structure Eff (b b' : B) (c : Conn) (al : Bool) (P : Path → Prop) : Prop where
  others : ∀ x : Conn, x.name ≠ c.name → (x ∈ b'.conns ↔ x ∈ b.conns)
  self : ∃ c', b'.conn? c.name = some c' ∧ c'.guid = c.guid ∧ c'.alive = al ∧ ∀ p, hasCounter c' p ↔ P p
  banned : b'.banned = b.banned
  mode : b'.mode = b.mode

theorem Eff.refl {b : B} {c : Conn} (hc : b.conn? c.name = some c) (ha : c.alive = true) :
    Eff b b c true (hasCounter c) :=
  ⟨fun _ _ => Iff.rfl, ⟨c, hc, rfl, ha, fun _ => Iff.rfl⟩, rfl, rfl⟩

theorem eff_of_conns {b b' : B} {c c' : Conn} {al : Bool} {P : Path → Prop} (hc : b.conn? c.name = some c)
    (hconns : b'.conns = (b.setConn c').conns) (hn : c'.name = c.name) (hg : c'.guid = c.guid)
    (hal : c'.alive = al) (hP : ∀ p, hasCounter c' p ↔ P p) (hb : b'.banned = b.banned) (hm : b'.mode = b.mode) :
    Eff b b' c al P := by
  refine ⟨?_, ⟨c', ?_, hg, hal, hP⟩, hb, hm⟩
  · intro x hx; rw [hconns]; exact others_setConn b c' x (by rw [hn]; exact hx)
  · exact conn?_replaced hc hn hconns

theorem Eff.trans {b b₁ b₂ : B} {c c₁ : Conn} {al₁ al₂ : Bool} {P₁ P₂ : Path → Prop}
    (h₁ : Eff b b₁ c al₁ P₁) (h₂ : Eff b₁ b₂ c₁ al₂ P₂) (hn : c₁.name = c.name) (hg : c₁.guid = c.guid) :
    Eff b b₂ c al₂ P₂ := by
  refine ⟨?_, ?_, h₂.banned.trans h₁.banned, h₂.mode.trans h₁.mode⟩
  · intro x hx
    rw [h₂.others x (by rw [hn]; exact hx), h₁.others x hx]
  · obtain ⟨c', e1, e2, e3⟩ := h₂.self
    exact ⟨c', by rw [← hn]; exact e1, e2.trans hg, e3⟩

theorem eff_subscribeConn {b : B} {c : Conn} (hc : b.conn? c.name = some c) (ha : c.alive = true)
    (σ : Path) (ch : Bytes) :
    Eff b (subscribeConn b c σ ch).1 c true (fun p => hasCounter c p ∨ p = σ) := by
  rw [subscribeConn_eq]
  split
  · rename_i hany
    have hh : hasCounter c σ := (any_ssid_iff c σ).1 hany
    exact ⟨fun _ _ => Iff.rfl, ⟨c, hc, rfl, ha, fun p => (or_iff_left_of_imp fun e => e ▸ hh).symm⟩, rfl, rfl⟩
  · exact eff_of_conns hc (hconns := rfl) (hn := rfl) (hg := rfl) (hal := ha)
      (hP := fun p => hasCounter_append c σ p ch 1) (hb := rfl) (hm := rfl)

theorem eff_unsubscribeConn {b : B} {c : Conn} (hc : b.conn? c.name = some c) (ha : c.alive = true)
    (h1 : ∀ ctr ∈ c.counters, ctr.count = 1) (σ : Path) (ch : Bytes) :
    Eff b (unsubscribeConn b c σ ch).1 c true (fun p => p ≠ σ ∧ hasCounter c p) :=
  eff_of_conns (c' := { c with counters := c.counters.filter (·.ssid != σ) }) hc
    (hconns := by rw [unsubscribeConn_conns, dec_spec _ h1]) (hn := rfl) (hg := rfl) (hal := ha)
    (hP := fun p => hasCounter_filter c σ p)
    (hb := (unsubscribeConn_frame b c σ ch).1.banned) (hm := (unsubscribeConn_frame b c σ ch).1.mode)

theorem eff_close (auth : Auth) {b : B} {c : Conn} (h : Sync b) (hc : b.conn? c.name = some c)
    (ha : c.alive = true) : Eff b (closeConn auth b c).1 c false (fun _ => False) := by
  obtain ⟨_, hconns, hf⟩ := closeConn_spec auth h hc ha
  exact eff_of_conns hc hconns (hn := rfl) (hg := rfl) (hal := rfl)
    (hP := fun p => iff_false_intro (not_hasCounter_of_nil rfl p)) (hb := hf.banned) (hm := hf.mode)

/-- a broker that has served nothing yet: no connection, an empty subscription index (any
matcher mode, ban list, retention period, message store) -/
def Pristine (b : B) : Prop := b.conns = [] ∧ b.trie = {}

theorem Pristine.not_mem {b : B} (h : Pristine b) (c : Conn) : c ∉ b.conns := by
  rw [h.1]; exact List.not_mem_nil

theorem sync_pristine {b : B} (h : Pristine b) : Sync b := by
  have hno := h.not_mem
  obtain ⟨hc, ht⟩ := h
  refine ⟨by rw [ht]; exact wf_empty, by rw [hc]; exact List.nodup_nil, fun c h => absurd h (hno c), fun p k => ?_,
    fun c h => absurd h (hno c), fun c h => absurd h (hno c), by rw [ht]; rfl⟩
  rw [ht]
  exact ⟨fun hh => (nomatch hh), fun ⟨c, h, _⟩ => absurd h (hno c)⟩

theorem Sync.alive_of_counter {b : B} (h : Sync b) {c : Conn} (hc : c ∈ b.conns) {σ : Path}
    (hp : hasCounter c σ) : c.alive = true := by
  cases ha : c.alive with
  | true => rfl
  | false => exact absurd hp (not_hasCounter_of_nil (h.dead c hc ha) σ)

theorem forall_mem_accept {b : B} {n : String} {g : Bytes} {P : Conn → Prop} :
    (∀ c ∈ (accept b n g).conns, P c) ↔ (∀ c ∈ b.conns, P c) ∧ P { name := n, guid := g } := by
  show (∀ c ∈ b.conns ++ [_], P c) ↔ _
  rw [List.forall_mem_append, List.forall_mem_singleton]

theorem exists_mem_accept {b : B} {n : String} {g : Bytes} {P : Conn → Prop} :
    (∃ c ∈ (accept b n g).conns, P c) ↔ (∃ c ∈ b.conns, P c) ∨ P { name := n, guid := g } := by
  show (∃ c ∈ b.conns ++ [_], P c) ↔ _
  simp only [List.mem_append, List.mem_singleton, or_and_right, exists_or, exists_eq_left]

theorem sync_accept (b : B) (name : String) (guid : Bytes) (h : Sync b)
    (hn : ∀ c ∈ b.conns, c.name ≠ name) (hk : ∀ c ∈ b.conns, c.key ≠ Hash.hashOf guid) :
    Sync (accept b name guid) :=
  { wf := h.wf
    count := h.count
    dead := forall_mem_accept.2 ⟨h.dead, fun _ => rfl⟩
    ctrs := forall_mem_accept.2 ⟨h.ctrs, List.nodup_nil, fun _ hm => nomatch hm⟩
    names := by
      show ((b.conns ++ [({ name := name, guid := guid } : Conn)]).map (·.name)).Nodup
      rw [List.map_append, List.map_singleton, nodup_append_singleton]
      exact ⟨h.names, by simpa [List.mem_map] using hn⟩
    keys :=
      -- an old and the new record have different keys
      forall_mem_accept.2 ⟨fun c₁ h₁ => forall_mem_accept.2 ⟨h.keys c₁ h₁, fun e => absurd e (hk _ h₁)⟩,
        forall_mem_accept.2 ⟨fun c₂ h₂ e => absurd e.symm (hk _ h₂), fun _ => rfl⟩⟩
    pairs := fun p k =>
      -- the new record holds nothing
      (h.pairs p k).trans (exists_mem_accept.trans (or_iff_left fun e => not_hasCounter_of_nil rfl p e.2.2)).symm }

theorem step_none (auth : Auth) (b : B) (name : String) (r : Req) (hc : b.conn? name = none) :
    step auth b name r = (b, []) := by
  simp only [step, hc]

/-- a closed connection is never served again (so its last will cannot fire twice) -/
theorem dead_silent (auth : Auth) (b : B) (name : String) (c : Conn) (r : Req)
    (hc : b.conn? name = some c) (ha : c.alive = false) : step auth b name r = (b, []) := by
  simp [step, hc, ha]

theorem step_subscribe (auth : Auth) {b : B} {name : String} {c : Conn} (hc : b.conn? name = some c)
    (ha : c.alive = true) (mid : UInt16) (topic : Bytes) (qos : UInt8) :
    step auth b name (.subscribe mid topic qos) =
      let ch := parseChannel (fixTopic topic)
      match admitSub auth b.banned ch permRead with
      | some g =>
          let r := subscribeConn b c (g.contract :: ch.query) ch.channel
          (r.1, r.2 ++
            (if g.has permLoad then
              (queryStore r.1 (g.contract :: ch.query) (match ch.last with | some v => v.toNat | none => 1)).map
                (fun m => (name, Pkt.pub m.channel m.payload))
             else []) ++ [(name, .suback mid [qos])])
      | none => (b, [(name, errPkt mid (if ch.ctype == chInvalid then 400 else 401)), (name, .suback mid [0x80])]) := by
  simp only [step, hc, ha, Bool.not_true, Bool.false_eq_true, if_false, admitSub]
  by_cases h1 : ((parseChannel (fixTopic topic)).ctype == chInvalid) = true
  · simp only [h1, if_true]
  · simp only [h1]
    cases hg : auth b.banned (parseChannel (fixTopic topic)) permRead with
    | none => rfl
    | some g => cases hx : g.has permExtend <;> simp only [hx, if_true, Bool.false_eq_true, if_false] <;> rfl

theorem step_unsubscribe (auth : Auth) {b : B} {name : String} {c : Conn} (hc : b.conn? name = some c)
    (ha : c.alive = true) (mid : UInt16) (topic : Bytes) :
    step auth b name (.unsubscribe mid topic) =
      let ch := parseChannel topic
      match admitSub auth b.banned ch permRead with
      | some g =>
          let r := unsubscribeConn b c (g.contract :: ch.query) ch.channel
          (r.1, r.2 ++ [(name, .unsuback mid)])
      | none => (b, [(name, errPkt mid (if ch.ctype == chInvalid then 400 else 401)), (name, .unsuback mid)]) := by
  simp only [step, hc, ha, Bool.not_true, Bool.false_eq_true, if_false, admitSub]
  by_cases h1 : ((parseChannel topic).ctype == chInvalid) = true
  · simp only [h1, if_true]
  · simp only [h1]
    cases hg : auth b.banned (parseChannel topic) permRead with
    | none => rfl
    | some g => cases hx : g.has permExtend <;> simp only [hx, if_true, Bool.false_eq_true, if_false]

theorem step_publish (auth : Auth) {b : B} {name : String} {c : Conn} (hc : b.conn? name = some c)
    (ha : c.alive = true) (qos : UInt8) (retain : Bool) (mid : UInt16) (topic payload : Bytes) :
    step auth b name (.publish qos retain mid topic payload) =
      let ch := parseChannel (resolve c topic)
      let ack : Out := if qos > 0 then [(name, .puback mid)] else []
      match admitPub auth b.banned ch with
      | some g =>
          let b' := keep b g ch retain payload
          (b', deliver b' (g.contract :: ch.query) (if ch.exclude then some c.key else none) (.pub ch.channel payload) ++ ack)
      | none =>
          (b, [(name, errPkt mid (if ch.ctype == chInvalid then 400 else if ch.ctype != chStatic then 403 else 401))] ++ ack) := by
  have hres : (if topic.length ≤ 2 then ((c.links.find? (·.1 == topic)).map (·.2)).getD [] else topic) =
      resolve c topic := rfl
  simp only [step, hc, ha, Bool.not_true, Bool.false_eq_true, if_false, admitPub, admitSub, hres]
  generalize resolve c topic = t
  by_cases h2 : ((parseChannel t).ctype != chStatic) = true
  · simp only [h2, if_true]; split <;> rfl
  · have h1 : ¬ ((parseChannel t).ctype == chInvalid) = true := by
      simpa using static_ne_invalid (by simpa using h2)
    simp only [h1, h2]
    cases hg : auth b.banned (parseChannel t) permWrite with
    | none => rfl
    | some g =>
        cases hx : g.has permExtend <;> simp only [hx, if_true, Bool.false_eq_true, if_false]
        rfl

theorem step_close_eq (auth : Auth) {b : B} {name : String} {c : Conn} (hc : b.conn? name = some c)
    (ha : c.alive = true) : step auth b name .close = closeConn auth b c := by
  simp only [step, hc, ha, Bool.not_true, Bool.false_eq_true, if_false]

/-- the state a request of the open connection `c` leaves: `step` with the outputs dropped and
the decisions named -/
def next (auth : Auth) (b : B) (c : Conn) : Req → B
  | .connect un wf wr wt wm =>
      b.setConn { c with username := un, hasConnect := true, willFlag := wf, willRetain := wr, willTopic := wt,
                         willMessage := wm }
  | .subscribe _ topic _ =>
      match admitSub auth b.banned (parseChannel (fixTopic topic)) permRead with
      | some g => (subscribeConn b c (g.contract :: (parseChannel (fixTopic topic)).query)
                    (parseChannel (fixTopic topic)).channel).1
      | none => b
  | .unsubscribe _ topic =>
      match admitSub auth b.banned (parseChannel topic) permRead with
      | some g => (unsubscribeConn b c (g.contract :: (parseChannel topic).query) (parseChannel topic).channel).1
      | none => b
  | .publish _ retain _ topic payload =>
      match admitPub auth b.banned (parseChannel (resolve c topic)) with
      | some g => keep b g (parseChannel (resolve c topic)) retain payload
      | none => b
  | .link _ nm key channel sub =>
      let ch := parseChannel (key ++ [sep] ++ channel)
      if isShortcut nm && ch.ctype != chInvalid then
        let c' := { c with links := (nm, ch.toBytes) :: c.links.filter (·.1 != nm) }
        match admitSub auth b.banned ch permRead with
        | some g => if sub then (subscribeConn (b.setConn c') c' (g.contract :: ch.query) ch.channel).1 else b.setConn c'
        | none => b.setConn c'
      else b
  | .presence _ key channel _ changes =>
      let ch := parseChannel (key ++ [sep] ++ (if channel.getLast? == some sep then channel else channel ++ [sep]))
      match admitSub auth b.banned ch permPresence, changes with
      | some g, some true => (subscribeConn b c (presenceSsid (g.contract :: ch.query)) ch.channel).1
      | some g, some false => (unsubscribeConn b c (presenceSsid (g.contract :: ch.query)) ch.channel).1
      | _, _ => b
  | .close => (closeConn auth b c).1

theorem step_fst (auth : Auth) {b : B} {name : String} {c : Conn} (hc : b.conn? name = some c)
    (ha : c.alive = true) (r : Req) : (step auth b name r).1 = next auth b c r := by
  cases r with
  | connect un wf wr wt wm => simp only [step, hc, ha, next]; rfl
  | subscribe mid topic qos => simp only [step_subscribe auth hc ha, next]; split <;> rfl
  | unsubscribe mid topic => simp only [step_unsubscribe auth hc ha, next]; split <;> rfl
  | publish qos retain mid topic payload => simp only [step_publish auth hc ha, next]; split <;> rfl
  | link mid nm key channel sub =>
      simp only [step, hc, ha, Bool.not_true, Bool.false_eq_true, if_false, next, admitSub, setConn_banned]
      cases h0 : isShortcut nm
      · simp only [Bool.not_false, if_true, Bool.false_and, Bool.false_eq_true, if_false]
      · by_cases h1 : ((parseChannel (key ++ [sep] ++ channel)).ctype == chInvalid) = true
        · have h1' : ((parseChannel (key ++ [sep] ++ channel)).ctype != chInvalid) = false := by simpa using h1
          simp only [h1, h1', if_true, Bool.not_true, Bool.false_eq_true, if_false, Bool.and_false]
        · have h1' : ((parseChannel (key ++ [sep] ++ channel)).ctype != chInvalid) = true := by simpa using h1
          simp only [h1, h1', if_true, Bool.not_true, Bool.false_eq_true, if_false, Bool.and_self]
          cases hg : auth b.banned (parseChannel (key ++ [sep] ++ channel)) permRead with
          | none => rfl
          | some g =>
              cases hx : g.has permExtend <;> cases sub <;>
                simp only [hx, Bool.not_true, Bool.not_false, Bool.and_self, Bool.and_false, Bool.false_and, if_true,
                  Bool.false_eq_true, if_false]
  | presence mid key channel status changes =>
      simp only [step, hc, ha, Bool.not_true, Bool.false_eq_true, if_false, next, admitSub, Option.getD_some]
      generalize (if channel.getLast? == some sep then channel else channel ++ [sep]) = chn
      by_cases h1 : ((parseChannel (key ++ [sep] ++ chn)).ctype == chInvalid) = true
      · simp only [h1, if_true]
      · simp only [h1]
        cases hg : auth b.banned (parseChannel (key ++ [sep] ++ chn)) permPresence with
        | none => rfl
        | some g =>
            cases hx : g.has permExtend <;> simp only [hx, if_true, Bool.false_eq_true, if_false]
            rcases changes with _ | _ | _ <;> cases status <;> rfl
  | close => rw [step_close_eq auth hc ha]; rfl

/-- either the request is not served, or it comes from the open record `c` found under its own name -/
theorem step_cases (auth : Auth) (b : B) (name : String) (r : Req) :
    (step auth b name r = (b, []) ∧ ∀ c, b.conn? name = some c → c.alive = false) ∨
    ∃ c, c.name = name ∧ b.conn? c.name = some c ∧ c.alive = true := by
  cases hc : b.conn? name with
  | none => exact Or.inl ⟨step_none auth b name r hc, fun c h => by cases h⟩
  | some c =>
    cases ha : c.alive with
    | false => exact Or.inl ⟨dead_silent auth b name c r hc ha, fun c' h => by cases h; exact ha⟩
    | true => exact Or.inr ⟨c, conn?_name hc, by rw [conn?_name hc]; exact hc, ha⟩

/-- The analysis of `step` for a property `I` of the state: `I` is kept by every request once it is kept by the
five operations requests are made of. `hset`: replacing a record by one with the same name, id, counters and
liveness (CONNECT and a link change nothing else of it; so `I` may not read the other fields). `hsub`, `hunsub`,
`hkeep`: `subscribeConn` / `unsubscribeConn` by an open connection, `keep`. These four are asked at every state,
because a link subscribes in the state its own `setConn` left. `hclose`: `closeConn` of the open record found
under its name — asked at `b` only: `Close` is applied to the state the request finds and to no other, and there
the caller may use what else it knows of `b` (`step_storeWF`: distinct names, which `StoreWF` does not say). -/
theorem step_invariant (auth : Auth) {I : B → Prop}
    (hset : ∀ {b c c'}, I b → c ∈ b.conns → c'.name = c.name → c'.guid = c.guid → c'.counters = c.counters →
      c'.alive = c.alive → I (b.setConn c'))
    (hsub : ∀ {b c}, I b → c ∈ b.conns → c.alive = true → ∀ σ ch, I (subscribeConn b c σ ch).1)
    (hunsub : ∀ {b c}, I b → c ∈ b.conns → c.alive = true → ∀ σ ch, I (unsubscribeConn b c σ ch).1)
    (hkeep : ∀ {b}, I b → ∀ g ch retain payload, I (keep b g ch retain payload))
    (b : B) (name : String) (r : Req) (h : I b)
    (hclose : ∀ c, b.conn? c.name = some c → c.alive = true → I (closeConn auth b c).1) :
    I (step auth b name r).1 := by
  rcases step_cases auth b name r with ⟨h0, _⟩ | ⟨c, rfl, hc, ha⟩
  · rw [h0]; exact h
  · have hm := conn?_mem hc
    rw [step_fst auth hc ha]
    cases r with
    | connect un wf wr wt wm => exact hset h hm rfl rfl rfl rfl
    | subscribe mid topic qos =>
        simp only [next]
        split
        · exact hsub h hm ha _ _
        · exact h
    | unsubscribe mid topic =>
        simp only [next]
        split
        · exact hunsub h hm ha _ _
        · exact h
    | publish qos retain mid topic payload =>
        simp only [next]
        split
        · exact hkeep h _ _ _ _
        · exact h
    | link mid nm key channel sub =>
        -- the link is recorded (`hset`), then maybe subscribed from the state that leaves (`hsub` there)
        simp only [next]
        split
        · generalize ((nm, (parseChannel (key ++ [sep] ++ channel)).toBytes) :: c.links.filter (fun x => x.1 != nm)) = lk
          have h' : I (b.setConn { c with links := lk }) := hset h hm rfl rfl rfl rfl
          have hm' : ({ c with links := lk } : Conn) ∈ (b.setConn { c with links := lk }).conns :=
            conn?_mem (conn?_replaced hc rfl rfl)
          split
          · split
            · exact hsub h' hm' ha _ _
            · exact h'
          · exact h'
        · exact h
    | presence mid key channel status changes =>
        simp only [next]
        split
        · exact hsub h hm ha _ _
        · exact hunsub h hm ha _ _
        · exact h
    | close => exact hclose c hc ha

theorem sync_step (auth : Auth) (b : B) (name : String) (r : Req) (h : Sync b) :
    Sync (step auth b name r).1 :=
  step_invariant auth (I := Sync)
    (hset := fun h hc hn hg hcs hal => sync_setConn h hc hn hg hcs (.inl hal))
    (hsub := sync_subscribeConn) (hunsub := sync_unsubscribeConn)
    (hkeep := fun h _ _ _ _ => h.congr (keep_trie ..) (keep_conns ..))
    b name r h (hclose := fun _ hc ha => (closeConn_spec auth h hc ha).1)

theorem listed_iff (b : B) (h : Sync b) (ssid : Path) (c : Conn) (hc : c ∈ b.conns) :
    (c.alive && ((b.trie.root.lookup b.mode ssid).eraseDups).contains c.key) = true ↔
      c.alive = true ∧ receives b.mode c ssid := by
  rw [Bool.and_eq_true, List.contains_iff_mem, List.mem_eraseDups, lookup_spec]
  constructor
  · rintro ⟨ha, f, hf, hmatch⟩
    exact ⟨ha, f, ((h.self_pairs hc f).1 hf).2, hmatch⟩
  · rintro ⟨ha, f, hf, hmatch⟩
    exact ⟨ha, f, (h.self_pairs hc f).2 ⟨ha, hf⟩, hmatch⟩

theorem mem_deliver (b : B) (ssid : Path) (excl : Option Sub) (pkt : Pkt) (e : String × Pkt) :
    e ∈ deliver b ssid excl pkt ↔ ∃ c ∈ b.conns,
      ((c.alive && ((b.trie.root.lookup b.mode ssid).eraseDups).contains c.key) = true ∧ excl ≠ some c.key) ∧
      e = (c.name, pkt) := by
  simp only [deliver, List.mem_filterMap, Option.ite_none_right_eq_some, Option.some.injEq, Bool.and_eq_true,
    bne_iff_ne, eq_comm (a := e)]

theorem deliver_snd {b : B} {ssid : Path} {excl : Option Sub} {pkt : Pkt} {e : String × Pkt}
    (h : e ∈ deliver b ssid excl pkt) : e.2 = pkt := by
  obtain ⟨c, _, _, rfl⟩ := (mem_deliver b ssid excl pkt e).1 h
  rfl

/-- `Publish`: exactly the live connections holding a matching subscription, minus the
excluded publisher, the packet unchanged -/
theorem deliver_spec (b : B) (h : Sync b) (ssid : Path) (excl : Option Sub) (pkt : Pkt) (n : String) (p : Pkt) :
    (n, p) ∈ deliver b ssid excl pkt ↔
      p = pkt ∧ ∃ c ∈ b.conns, c.name = n ∧ c.alive = true ∧ receives b.mode c ssid ∧ excl ≠ some c.key := by
  rw [mem_deliver]
  constructor
  · rintro ⟨c, hc, ⟨hr, hex⟩, he⟩
    obtain ⟨rfl, rfl⟩ := Prod.mk.inj he
    obtain ⟨ha, hrec⟩ := (listed_iff b h ssid c hc).1 hr
    exact ⟨rfl, c, hc, rfl, ha, hrec, hex⟩
  · rintro ⟨rfl, c, hc, rfl, ha, hrec, hex⟩
    exact ⟨c, hc, ⟨(listed_iff b h ssid c hc).2 ⟨ha, hrec⟩, hex⟩, rfl⟩

theorem deliver_once (b : B) (h : Sync b) (ssid : Path) (excl : Option Sub) (pkt : Pkt) :
    ((deliver b ssid excl pkt).map Prod.fst).Nodup := by
  unfold deliver
  rw [← List.filterMap_filter, List.filterMap_eq_map', List.map_map]
  exact (List.filter_sublist.map _).nodup h.names

/-- the field text of a presence notification (as built by `notify`) -/
def notifyFields (event : String) (c : Conn) (channel : Bytes) : String :=
  let un := if c.username.isEmpty then "" else s!",who.username={strOf c.username}"
  s!"channel={strOf channel},event={event},who.id={strOf c.guid}{un}"

theorem notify_eq (b : B) (event : String) (c : Conn) (ssid : Path) (channel : Bytes) :
    notify b event c ssid channel =
      deliver b (presenceSsid ssid) none (.json (strBytes "emitter/presence/") (notifyFields event c channel)) := rfl

theorem notify_receivers (b : B) (h : Sync b) (event : String) (c : Conn) (ssid : Path) (channel : Bytes) :
    ∃ f, ∀ (n : String) (p : Pkt),
      (n, p) ∈ notify b event c ssid channel ↔
        p = .json (strBytes "emitter/presence/") f ∧
        ∃ w ∈ b.conns, w.name = n ∧ w.alive = true ∧ receives b.mode w (presenceSsid ssid) := by
  refine ⟨notifyFields event c channel, fun n p => ?_⟩
  rw [notify_eq, deliver_spec b h]
  simp only [ne_eq, reduceCtorEq, not_false_eq_true, and_true]

theorem subscribeConn_out (b : B) (c : Conn) (ssid : Path) (channel : Bytes) :
    (subscribeConn b c ssid channel).2 =
      if c.counters.any (·.ssid == ssid) then []
      else notify (subscribeConn b c ssid channel).1 "subscribe"
             { c with counters := c.counters ++ [⟨ssid, channel, 1⟩] } ssid channel := by
  rw [subscribeConn_eq]
  by_cases hany : c.counters.any (·.ssid == ssid) = true
  · simp only [hany, if_true]
  · simp only [hany]; rfl

theorem unsubscribeConn_out (b : B) (c : Conn) (ssid : Path) (channel : Bytes)
    (h1 : ∀ ctr ∈ c.counters, ctr.count = 1) :
    (unsubscribeConn b c ssid channel).2 =
      if c.counters.any (·.ssid == ssid) then
        notify (unsubscribeConn b c ssid channel).1 "unsubscribe"
          { c with counters := c.counters.filter (·.ssid != ssid) } ssid channel
      else [] := by
  rw [unsubscribeConn_eq _ _ _ _ h1]
  by_cases hany : c.counters.any (·.ssid == ssid) = true
  · simp only [hany, if_true]
  · simp only [hany]; rfl

theorem publish_exact (auth : Auth) (b : B) (name : String) (c : Conn) (qos : UInt8) (retain : Bool)
    (mid : UInt16) (topic payload : Bytes) (g : Grant)
    (hc : b.conn? name = some c) (ha : c.alive = true)
    (hs : (parseChannel (resolve c topic)).ctype = chStatic)
    (hauth : auth b.banned (parseChannel (resolve c topic)) permWrite = some g) (hx : g.has permExtend = false) :
    let ch := parseChannel (resolve c topic)
    let r := step auth b name (.publish qos retain mid topic payload)
    r.1.trie = b.trie ∧ r.1.conns = b.conns ∧
    r.2 = deliver r.1 (g.contract :: ch.query) (if ch.exclude then some c.key else none) (.pub ch.channel payload)
            ++ (if qos > 0 then [(name, .puback mid)] else []) := by
  simp only [step_publish auth hc ha, admitPub_eq_some.2 ⟨hs, hauth, hx⟩, and_true]
  exact ⟨keep_trie _ _ _ _ _, keep_conns _ _ _ _ _⟩

/-- an accepted SUBSCRIBE is recorded (and a repeated one changes nothing) -/
theorem subscribe_records (auth : Auth) (b : B) (name : String) (c : Conn) (mid : UInt16) (topic : Bytes) (qos : UInt8)
    (g : Grant) (h : Sync b) (hc : b.conn? name = some c) (ha : c.alive = true)
    (hv : (parseChannel (fixTopic topic)).ctype ≠ chInvalid)
    (hauth : auth b.banned (parseChannel (fixTopic topic)) permRead = some g) (hx : g.has permExtend = false) :
    let ssid := g.contract :: (parseChannel (fixTopic topic)).query
    let r := step auth b name (.subscribe mid topic qos)
    (∃ c', r.1.conn? name = some c' ∧ hasCounter c' ssid) ∧
    (hasCounter c ssid → r.1.trie = b.trie ∧ r.1.conns = b.conns) ∧
    r.2.getLast? = some (name, .suback mid [qos]) := by
  have _ := h   -- the invariant is not needed for this one
  simp only [step_subscribe auth hc ha, admitSub_eq_some.2 ⟨hv, hauth, hx⟩]
  have hname := conn?_name hc
  subst hname
  refine ⟨?_, ?_, List.getLast?_concat⟩
  · obtain ⟨c', h1, _, _, h4⟩ := (eff_subscribeConn hc ha (g.contract :: (parseChannel (fixTopic topic)).query)
      (parseChannel (fixTopic topic)).channel).self
    exact ⟨c', h1, (h4 _).2 (Or.inr rfl)⟩
  · intro hh
    rw [subscribeConn_eq, if_pos ((any_ssid_iff _ _).2 hh)]
    exact ⟨rfl, rfl⟩

/-- an accepted UNSUBSCRIBE removes exactly that subscription -/
theorem unsubscribe_removes (auth : Auth) (b : B) (name : String) (c : Conn) (mid : UInt16) (topic : Bytes)
    (g : Grant) (h : Sync b) (hc : b.conn? name = some c) (ha : c.alive = true)
    (hv : (parseChannel topic).ctype ≠ chInvalid)
    (hauth : auth b.banned (parseChannel topic) permRead = some g) (hx : g.has permExtend = false) :
    let ssid := g.contract :: (parseChannel topic).query
    let r := step auth b name (.unsubscribe mid topic)
    (∃ c', r.1.conn? name = some c' ∧ ¬ hasCounter c' ssid ∧ ∀ p, p ≠ ssid → (hasCounter c' p ↔ hasCounter c p)) ∧
    (∀ c₂ ∈ b.conns, c₂.name ≠ name → c₂ ∈ r.1.conns) := by
  simp only [step_unsubscribe auth hc ha, admitSub_eq_some.2 ⟨hv, hauth, hx⟩]
  have hname := conn?_name hc
  subst hname
  have e := eff_unsubscribeConn hc ha (h.ctrs c (conn?_mem hc)).2 (g.contract :: (parseChannel topic).query)
    (parseChannel topic).channel
  obtain ⟨c', h1, _, _, h4⟩ := e.self
  exact ⟨⟨c', h1, fun hh => ((h4 _).1 hh).1 rfl,
    fun p hp => ⟨fun hh => ((h4 p).1 hh).2, fun hh => (h4 p).2 ⟨hp, hh⟩⟩⟩, fun c₂ h2 hn2 => (e.others c₂ hn2).2 h2⟩

/-- C08: when a connection ends, every subscription it held is removed, it stops receiving,
other connections are untouched, the connection counter goes down by one -/
theorem close_cleans (auth : Auth) (b : B) (name : String) (c : Conn) (h : Sync b)
    (hc : b.conn? name = some c) (ha : c.alive = true) :
    let r := step auth b name .close
    (∃ c', r.1.conn? name = some c' ∧ c'.alive = false ∧ c'.counters = []) ∧
    (∀ p, (p, c.key) ∉ r.1.trie.root.abs) ∧
    (∀ c₂ ∈ b.conns, c₂.name ≠ name → c₂ ∈ r.1.conns) ∧
    r.1.open_ = b.open_ - 1 ∧
    (∀ ssid excl pkt, (name, pkt) ∉ deliver r.1 ssid excl pkt) := by
  dsimp only
  rw [step_close_eq auth hc ha]
  obtain rfl := conn?_name hc
  obtain ⟨hsync, hconns, hframe⟩ := closeConn_spec auth h hc ha
  have hdead : (closeConn auth b c).1.conn? c.name = some { c with counters := [], alive := false } :=
    conn?_replaced hc rfl hconns
  have hm' := conn?_mem hdead
  refine ⟨⟨_, hdead, rfl, rfl⟩, fun p hp => ?_, fun c₂ h2 hn2 => ?_, hframe.open_, fun ssid excl pkt hd => ?_⟩
  · exact Bool.noConfusion ((hsync.self_pairs hm' p).1 hp).1
  · rw [hconns]
    exact (others_setConn b _ c₂ (by exact hn2)).2 h2
  · obtain ⟨_, c₂, h2, hn2, ha2, _⟩ := (deliver_spec _ hsync ssid excl pkt c.name pkt).1 hd
    rw [eq_of_name_eq hsync.names h2 hm' hn2] at ha2
    cases ha2

/-- C08: the last will is published exactly when one was supplied, its topic is a static
channel and its key allows publishing there (and is not extendable) -/
theorem will_fires_iff (auth : Auth) (b : B) (c : Conn) :
    (∃ g, c.hasConnect = true ∧ c.willFlag = true ∧ (parseChannel c.willTopic).ctype = chStatic ∧
        auth b.banned (parseChannel c.willTopic) permWrite = some g ∧ g.has permExtend = false ∧
        (lastWill auth b c).2 = deliver (lastWill auth b c).1 (g.contract :: (parseChannel c.willTopic).query) none
                                  (.pub (parseChannel c.willTopic).channel c.willMessage)) ∨
    ((¬ ∃ g, c.hasConnect = true ∧ c.willFlag = true ∧ (parseChannel c.willTopic).ctype = chStatic ∧
        auth b.banned (parseChannel c.willTopic) permWrite = some g ∧ g.has permExtend = false) ∧
      lastWill auth b c = (b, [])) := by
  by_cases hex : ∃ g, c.hasConnect = true ∧ c.willFlag = true ∧ (parseChannel c.willTopic).ctype = chStatic ∧
        auth b.banned (parseChannel c.willTopic) permWrite = some g ∧ g.has permExtend = false
  · obtain ⟨g, h1, h2, h3, h4, h5⟩ := hex
    refine Or.inl ⟨g, h1, h2, h3, h4, h5, ?_⟩
    rw [lastWill_eq, h1, h2, admitPub_eq_some.2 ⟨h3, h4, h5⟩]
    rfl
  · refine Or.inr ⟨hex, ?_⟩
    rw [lastWill_eq]
    split
    · rename_i h12
      cases hq : admitPub auth b.banned (parseChannel c.willTopic) with
      | none => rfl
      | some g =>
          obtain ⟨h3, h4, h5⟩ := admitPub_eq_some.1 hq
          simp only [Bool.and_eq_true] at h12
          exact absurd ⟨g, h12.1, h12.2, h3, h4, h5⟩ hex
    · rfl

theorem queryStore_congr {b b' : B} (h : b'.store = b.store) (σ : Path) (n : Nat) :
    queryStore b' σ n = queryStore b σ n := by
  unfold queryStore; rw [h]

theorem filter_notes {p : String × Pkt → Bool} {notes hist rest : Out}
    (hn : ∀ e ∈ notes, p e = false) (hh : ∀ e ∈ hist, p e = true) :
    (notes ++ hist ++ rest).filter p = hist ++ rest.filter p := by
  rw [List.filter_append, List.filter_append, List.filter_eq_nil_iff.2 (fun e he => by simp [hn e he]),
    List.filter_eq_self.2 hh, List.nil_append]

theorem subscribeConn_out_json {b : B} {c : Conn} {ssid : Path} {channel : Bytes} {e : String × Pkt}
    (he : e ∈ (subscribeConn b c ssid channel).2) : ∃ t f, e.2 = .json t f := by
  rw [subscribeConn_out] at he
  split at he
  · cases he
  · rw [notify_eq] at he
    exact ⟨_, _, deliver_snd he⟩

/-- an accepted subscription with the load permission is sent exactly the last N stored
matching messages before its SUBACK (N from `last`, 1 by default, 0 for none); none without -/
theorem replay_exact (auth : Auth) (b : B) (name : String) (c : Conn) (mid : UInt16) (topic : Bytes) (qos : UInt8)
    (g : Grant) (hc : b.conn? name = some c) (ha : c.alive = true)
    (hv : (parseChannel (fixTopic topic)).ctype ≠ chInvalid)
    (hauth : auth b.banned (parseChannel (fixTopic topic)) permRead = some g) (hx : g.has permExtend = false) :
    let ch := parseChannel (fixTopic topic)
    let ssid := g.contract :: ch.query
    let limit : Nat := match ch.last with | some v => v.toNat | none => 1
    let r := step auth b name (.subscribe mid topic qos)
    r.1.store = b.store ∧
    (r.2.filter (fun e => e.1 == name && (match e.2 with | .json _ _ => false | _ => true))) =
      (if g.has permLoad then (queryStore b ssid limit).map (fun m => (name, Pkt.pub m.channel m.payload)) else [])
        ++ [(name, .suback mid [qos])] := by
  simp only [step_subscribe auth hc ha, admitSub_eq_some.2 ⟨hv, hauth, hx⟩]
  refine ⟨(subscribeConn_frame b c _ _).2, ?_⟩
  rw [queryStore_congr (subscribeConn_frame b c _ _).2]
  refine (filter_notes (fun e he => ?_) (fun e he => ?_)).trans (by simp)
  · obtain ⟨t, f, hj⟩ := subscribeConn_out_json he
    simp [hj]
  · split at he
    · obtain ⟨m, _, rfl⟩ := List.mem_map.1 he
      simp
    · cases he

/-- With the field text quantified inside the equivalence (`∃ f, p = .json … f` for a given `p`) the
statement of `notify_receivers` is false from right to left: one live connection "w" watching the
presence ssid of `[]` makes the right-hand side hold for the two packets `json … "x"` and `json … "y"`,
while `notify` sends every receiver the same packet. -/
theorem notify_receivers_original_false :
    ¬ ∀ (b : B) (_ : Sync b) (event : String) (c : Conn) (ssid : Path) (channel : Bytes) (n : String) (p : Pkt),
      ((n, p) ∈ notify b event c ssid channel ↔
        (∃ f, p = .json (strBytes "emitter/presence/") f) ∧
        ∃ w ∈ b.conns, w.name = n ∧ w.alive = true ∧ receives b.mode w (presenceSsid ssid)) := by
  intro hall
  have h0 : Sync (accept {} "w" [1]) := sync_accept _ _ _ (sync_pristine ⟨rfl, rfl⟩) (by simp) (by simp)
  have hw : ({ name := "w", guid := [1] } : Conn) ∈ (accept {} "w" [1]).conns := by simp [accept]
  have h1 := sync_subscribeConn h0 hw rfl (presenceSsid []) []
  have hconns : (subscribeConn (accept {} "w" [1]) { name := "w", guid := [1] } (presenceSsid []) []).1.conns =
      [{ name := "w", guid := [1], counters := [⟨presenceSsid [], [], 1⟩] }] := by
    simp [subscribeConn_eq, accept, B.setConn]
  have hrhs : ∀ f, ("w", Pkt.json (strBytes "emitter/presence/") f) ∈
      notify (subscribeConn (accept {} "w" [1]) { name := "w", guid := [1] } (presenceSsid []) []).1
        "subscribe" { name := "c", guid := [2] } [] [] := by
    intro f
    refine (hall _ h1 "subscribe" { name := "c", guid := [2] } [] [] "w" _).2 ⟨⟨f, rfl⟩, ?_⟩
    refine ⟨{ name := "w", guid := [1], counters := [⟨presenceSsid [], [], 1⟩] }, ?_, rfl, rfl, ?_⟩
    · rw [hconns]; simp
    · exact ⟨presenceSsid [], ⟨_, List.mem_singleton.2 rfl, rfl⟩, matches_self _ _⟩
  have hx := deliver_snd (hrhs "x")
  have hy := deliver_snd (hrhs "y")
  rw [← hy] at hx
  simp at hx
end Emitter.Broker
