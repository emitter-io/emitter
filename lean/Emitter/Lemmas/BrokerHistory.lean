/-
  The history-level statement of C02: the broker model refines the set `A` of acknowledged, not
  yet removed subscriptions (`Emitter/Spec/Subscriptions.lean`) — for every history of accepts,
  requests (subscribe / unsubscribe / publish / link / presence / connect / disconnect) and ban
  list changes, by any number of clients, in any order, under every authorizer.
-/
import Emitter.Lemmas.Broker
import Emitter.Spec.Subscriptions
namespace Emitter.Broker
open Emitter Emitter.Trie Emitter.Security

def applyEv (auth : Auth) (b : B) : Spec.Ev → B × Out
  | .accept n g => (accept b n g, [])
  | .req n r => step auth b n r
  | .ban keys => ({ b with banned := keys }, [])

def run (auth : Auth) (b : B) (evs : List Spec.Ev) : B := evs.foldl (fun b e => (applyEv auth b e).1) b

/-- the refinement relation: the spec state describes the same open connections and the same
(connection, filter) pairs as the per-connection bookkeeping of the model -/
structure Refines (b : B) (S : Spec.SpecState) : Prop where
  banned : S.banned = b.banned
  nodup : S.alive.Nodup
  alive : ∀ n, n ∈ S.alive ↔ ∃ c ∈ b.conns, c.name = n ∧ c.alive = true
  pairs : ∀ n σ, (n, σ) ∈ S.A ↔ ∃ c ∈ b.conns, c.name = n ∧ hasCounter c σ

theorem Spec.mem_insertPair (A : List (String × Path)) (n : String) (σ : Path) (p : String × Path) :
    p ∈ Spec.insertPair A n σ ↔ p ∈ A ∨ p = (n, σ) := by
  unfold Spec.insertPair
  split
  · rename_i hc
    have hm : (n, σ) ∈ A := by simpa using hc
    exact (or_iff_left_of_imp fun e => e ▸ hm).symm
  · simp

theorem Spec.mem_removePair (A : List (String × Path)) (n : String) (σ : Path) (p : String × Path) :
    p ∈ Spec.removePair A n σ ↔ p ∈ A ∧ p ≠ (n, σ) := by
  simp [Spec.removePair]

/-- the filters the requesting connection holds after a request with this effect -/
def Spec.Effect.holds (e : Spec.Effect) (c : Conn) (p : Path) : Prop :=
  match e with
  | .none => hasCounter c p
  | .add σ => hasCounter c p ∨ p = σ
  | .remove σ => p ≠ σ ∧ hasCounter c p
  | .closeAll => False

def Spec.Effect.alive : Spec.Effect → Bool
  | .closeAll => false
  | _ => true

theorem Spec.granted_eq (auth : Auth) (banned : List Bytes) (ch : Channel) (perm : UInt8) :
    Spec.granted auth banned ch perm = (admitSub auth banned ch perm).map (fun g => g.contract :: ch.query) := by
  unfold Spec.granted admitSub
  split
  · rfl
  cases auth banned ch perm with
  | none => rfl
  | some g => dsimp only; split <;> rfl

/-- every request of an open connection changes the model exactly as `Spec.effect` says -/
theorem step_eff (auth : Auth) (b : B) (c : Conn) (r : Req) (h : Sync b)
    (hc : b.conn? c.name = some c) (ha : c.alive = true) :
    Eff b (step auth b c.name r).1 c (Spec.effect auth b.banned r).alive
      ((Spec.effect auth b.banned r).holds c) := by
  rw [step_fst auth hc ha]
  have h1 := (h.ctrs c (conn?_mem hc)).2
  cases r with
  | connect un wf wr wt wm =>
      exact eff_of_conns hc (hconns := rfl) (hn := rfl) (hg := rfl) (hal := ha) (hP := fun _ => Iff.rfl) (hb := rfl)
        (hm := rfl)
  | subscribe mid topic qos =>
      simp only [next, Spec.effect, Spec.granted_eq]
      cases admitSub auth b.banned (parseChannel (fixTopic topic)) permRead with
      | none => exact Eff.refl hc ha
      | some g => exact eff_subscribeConn hc ha _ _
  | unsubscribe mid topic =>
      simp only [next, Spec.effect, Spec.granted_eq]
      cases admitSub auth b.banned (parseChannel topic) permRead with
      | none => exact Eff.refl hc ha
      | some g => exact eff_unsubscribeConn hc ha h1 _ _
  | publish qos retain mid topic payload =>
      simp only [next, Spec.effect]
      cases admitPub auth b.banned (parseChannel (resolve c topic)) with
      | none => exact Eff.refl hc ha
      | some g =>
          have k := keep_frame b g (parseChannel (resolve c topic)) retain payload
          exact eff_of_conns hc ((keep_conns b g _ _ _).trans (setConn_self h.names (conn?_mem hc)).symm)
            (hn := rfl) (hg := rfl) (hal := ha) (hP := fun _ => Iff.rfl) (hb := k.banned) (hm := k.mode)
  | link mid nm key channel sub =>
      simp only [next, Spec.effect, Spec.granted_eq]
      generalize ((nm, (parseChannel (key ++ [sep] ++ channel)).toBytes) :: c.links.filter (fun x => x.1 != nm)) = lk
      have hset : Eff b (b.setConn { c with links := lk }) c true (hasCounter c) :=
        eff_of_conns hc (hconns := rfl) (hn := rfl) (hg := rfl) (hal := ha) (hP := fun _ => Iff.rfl) (hb := rfl) (hm := rfl)
      cases h0 : isShortcut nm
      · exact Eff.refl hc ha
      · by_cases hv : (parseChannel (key ++ [sep] ++ channel)).ctype = chInvalid
        · have hn : admitSub auth b.banned (parseChannel (key ++ [sep] ++ channel)) permRead = none :=
            admitSub_eq_none.2 (Or.inl hv)
          simp only [hv, hn, bne_self_eq_false, Bool.and_false, Bool.false_eq_true, if_false]
          cases sub <;> exact Eff.refl hc ha
        · have hv' : ((parseChannel (key ++ [sep] ++ channel)).ctype != chInvalid) = true := by simpa using hv
          simp only [hv', Bool.and_self, if_true, Bool.true_and]
          cases admitSub auth b.banned (parseChannel (key ++ [sep] ++ channel)) permRead with
          | none => cases sub <;> exact hset
          | some g =>
              cases sub
              · exact hset
              · have hc1 : (b.setConn { c with links := lk }).conn? c.name = some { c with links := lk } :=
                  conn?_replaced hc rfl rfl
                exact hset.trans (eff_subscribeConn (c := { c with links := lk }) hc1 ha _ _) rfl rfl
  | presence mid key channel status changes =>
      simp only [next, Spec.effect, Spec.granted_eq]
      generalize (if channel.getLast? == some sep then channel else channel ++ [sep]) = chn
      cases admitSub auth b.banned (parseChannel (key ++ [sep] ++ chn)) permPresence with
      | none => exact Eff.refl hc ha
      | some g =>
          match changes with
          | none => exact Eff.refl hc ha
          | some false => exact eff_unsubscribeConn hc ha h1 _ _
          | some true => exact eff_subscribeConn hc ha _ _
  | close => exact eff_close auth h hc ha

theorem Refines.self_pairs {b : B} {S : Spec.SpecState} (hs : Sync b) (hr : Refines b S) {c : Conn}
    (hc : c ∈ b.conns) (σ : Path) : (c.name, σ) ∈ S.A ↔ hasCounter c σ :=
  (hr.pairs _ _).trans (exists_name_iff hs.names hc _)

theorem Refines.self_alive {b : B} {S : Spec.SpecState} (hs : Sync b) (hr : Refines b S) {c : Conn}
    (hc : c ∈ b.conns) : c.name ∈ S.alive ↔ c.alive = true :=
  (hr.alive _).trans (exists_name_iff hs.names hc _)

theorem Eff.exists_iff {b b' : B} {c c' : Conn} {al : Bool} {P : Path → Prop} (he : Eff b b' c al P)
    (hs' : Sync b') (hc' : b'.conn? c.name = some c') (Q : Conn → Prop) (n : String) :
    (∃ x ∈ b'.conns, x.name = n ∧ Q x) ↔
      (n = c.name ∧ Q c') ∨ (n ≠ c.name ∧ ∃ x ∈ b.conns, x.name = n ∧ Q x) := by
  constructor
  · rintro ⟨x, hx, rfl, hq⟩
    by_cases hne : x.name = c.name
    · rw [eq_of_name_eq hs'.names hx (conn?_mem hc') (hne.trans (conn?_name hc').symm)] at hq
      exact Or.inl ⟨hne, hq⟩
    · exact Or.inr ⟨hne, x, (he.others x hne).1 hx, rfl, hq⟩
  · rintro (⟨rfl, hq⟩ | ⟨hne, x, hx, rfl, hq⟩)
    · exact ⟨c', conn?_mem hc', conn?_name hc', hq⟩
    · exact ⟨x, (he.others x hne).2 hx, rfl, hq⟩

theorem refines_of_eff {b b' : B} {S S' : Spec.SpecState} {c : Conn} {al : Bool} {P : Path → Prop}
    (hs' : Sync b') (hr : Refines b S) (he : Eff b b' c al P)
    (hb : S'.banned = S.banned) (hnd : S'.alive.Nodup)
    (hal : ∀ n, n ∈ S'.alive ↔ (n = c.name ∧ al = true) ∨ (n ≠ c.name ∧ n ∈ S.alive))
    (hA : ∀ n σ, (n, σ) ∈ S'.A ↔ (n = c.name ∧ P σ) ∨ (n ≠ c.name ∧ (n, σ) ∈ S.A)) :
    Refines b' S' := by
  obtain ⟨c', hc', _, hal', hP⟩ := he.self
  refine ⟨by rw [hb, hr.banned, he.banned], hnd, fun n => ?_, fun n σ => ?_⟩
  · rw [hal, he.exists_iff hs' hc' (fun x => x.alive = true), hal', hr.alive]
  · rw [hA, he.exists_iff hs' hc' (fun x => hasCounter x σ), hP, hr.pairs]

theorem refines_step (auth : Auth) {b : B} {S : Spec.SpecState} (hs : Sync b) (hr : Refines b S)
    (name : String) (r : Req) : Refines (step auth b name r).1 (Spec.step auth S name r) := by
  rcases step_cases auth b name r with ⟨h0, hd⟩ | ⟨c, rfl, hc, ha⟩
  · -- not served on the model: then not open on the specification either
    have hna : name ∉ S.alive := by
      rw [hr.alive]
      rintro ⟨c, hm, rfl, ha⟩
      rw [hd c (conn?_of_mem hs.names hm)] at ha
      cases ha
    rw [h0, Spec.step, if_pos (by simpa using hna)]
    exact hr
  · have hm := conn?_mem hc
    have hin : c.name ∈ S.alive := (hr.self_alive hs hm).2 ha
    have he := step_eff auth b c r hs hc ha
    unfold Spec.step
    rw [if_neg (by simpa using hin), show Spec.effect auth S.banned r = Spec.effect auth b.banned r by rw [hr.banned]]
    generalize Spec.effect auth b.banned r = E at he ⊢
    -- the model side is `he`; what is left is the specification side, effect by effect: the open names
    -- and the pairs of the requester are what `E.alive` / `E.holds` say, those of the others are untouched
    refine refines_of_eff (sync_step auth b c.name r hs) hr he (by cases E <;> rfl) ?_ (fun n => ?_) (fun n σ => ?_)
    · cases E with
      | closeAll => exact List.Pairwise.filter _ hr.nodup
      | _ => exact hr.nodup
    · cases E <;> by_cases hn : n = c.name <;> simp [hn, hin, Spec.Effect.alive]
    · cases E <;> by_cases hn : n = c.name <;>
        simp [hn, Spec.mem_insertPair, Spec.mem_removePair, hr.self_pairs hs hm, Spec.Effect.holds, and_comm]

theorem refines_accept (auth : Auth) {b : B} {S : Spec.SpecState} (hr : Refines b S) (name : String) (guid : Bytes)
    (hn : ∀ c ∈ b.conns, c.name ≠ name) :
    Refines (accept b name guid) (Spec.apply auth S (.accept name guid)) := by
  have hna : name ∉ S.alive := by
    rw [hr.alive]; rintro ⟨c, hc, hcn, _⟩; exact hn c hc hcn
  refine ⟨hr.banned, nodup_append_singleton.2 ⟨hr.nodup, hna⟩, fun n => ?_, fun n σ => ?_⟩
  · show n ∈ S.alive ++ [name] ↔ _
    rw [List.mem_append, List.mem_singleton, hr.alive, exists_mem_accept]
    -- the new record is open and carries `name`
    exact or_congr_right ⟨fun e => ⟨e.symm, rfl⟩, fun e => e.1.symm⟩
  · -- the new record holds nothing
    exact (hr.pairs n σ).trans
      (exists_mem_accept.trans (or_iff_left fun e => not_hasCounter_of_nil rfl σ e.2)).symm

theorem Refines.congr {b b' : B} {S : Spec.SpecState} (hr : Refines b S) (hc : b'.conns = b.conns)
    (hb : b'.banned = b.banned) : Refines b' S :=
  ⟨by rw [hb]; exact hr.banned, hr.nodup, by rw [hc]; exact hr.alive, by rw [hc]; exact hr.pairs⟩

theorem step_mode (auth : Auth) (b : B) (name : String) (r : Req) (hs : Sync b) :
    (step auth b name r).1.mode = b.mode := by
  rcases step_cases auth b name r with ⟨h0, _⟩ | ⟨c, rfl, hc, ha⟩
  · rw [h0]
  · exact (step_eff auth b c r hs hc ha).mode

/-- no request changes the name or the key of a record, or adds one -/
theorem step_keeps_ids (auth : Auth) (b : B) (name : String) (r : Req) (hs : Sync b) :
    ∀ x ∈ (step auth b name r).1.conns, ∃ y ∈ b.conns, y.name = x.name ∧ y.key = x.key := by
  rcases step_cases auth b name r with ⟨h0, _⟩ | ⟨c, rfl, hc, ha⟩
  · rw [h0]
    exact fun x hx => ⟨x, hx, rfl, rfl⟩
  · have he := step_eff auth b c r hs hc ha
    intro x hx
    by_cases hxn : x.name = c.name
    · obtain ⟨c', hc', hg, _⟩ := he.self
      have : x = c' := eq_of_name_eq (sync_step auth b c.name r hs).names hx (conn?_mem hc')
        (by rw [hxn, conn?_name hc'])
      subst this
      exact ⟨c, conn?_mem hc, hxn.symm, by unfold Conn.key; rw [hg]⟩
    · exact ⟨x, (he.others x hxn).1 hx, rfl, rfl⟩

/-- the accepts of `evs` are pairwise new and new with respect to the connections of `b` -/
structure Fresh (b : B) (evs : List Spec.Ev) : Prop where
  names : (Spec.acceptNames evs).Nodup
  keys : (Spec.acceptKeys evs).Nodup
  newNames : ∀ c ∈ b.conns, c.name ∉ Spec.acceptNames evs
  newKeys : ∀ c ∈ b.conns, c.key ∉ Spec.acceptKeys evs

theorem Spec.run_cons (auth : Auth) (S : Spec.SpecState) (e : Spec.Ev) (es : List Spec.Ev) :
    Spec.run auth S (e :: es) = Spec.run auth (Spec.apply auth S e) es := rfl

theorem applyEv_keeps (auth : Auth) (b : B) (e : Spec.Ev) (es : List Spec.Ev) (hs : Sync b) (hf : Fresh b (e :: es)) :
    Sync (applyEv auth b e).1 ∧ Fresh (applyEv auth b e).1 es := by
  obtain ⟨hnames, hkeys, hnewN, hnewK⟩ := hf
  cases e with
  | accept n g =>
      simp only [Spec.acceptNames, Spec.acceptKeys, List.nodup_cons, List.mem_cons, not_or] at hnames hkeys hnewN hnewK
      exact ⟨sync_accept b n g hs (fun c hc => (hnewN c hc).1) (fun c hc => (hnewK c hc).1), hnames.2, hkeys.2,
        forall_mem_accept.2 ⟨fun c hc => (hnewN c hc).2, hnames.1⟩, forall_mem_accept.2 ⟨fun c hc => (hnewK c hc).2, hkeys.1⟩⟩
  | req n r =>
      have hfr := step_keeps_ids auth b n r hs
      refine ⟨sync_step auth b n r hs, hnames, hkeys, ?_, ?_⟩
      · intro x hx
        obtain ⟨y, hy, h1, _⟩ := hfr x hx
        rw [← h1]; exact hnewN y hy
      · intro x hx
        obtain ⟨y, hy, _, h2⟩ := hfr x hx
        rw [← h2]; exact hnewK y hy
  | ban keys => exact ⟨hs.congr rfl rfl, hnames, hkeys, hnewN, hnewK⟩

/-- a relation between the model and some other state that every event preserves (the invariant
holding, the accepts being new) is preserved by every history, together with the invariant -/
theorem run_sim (auth : Auth) {σ : Type} {R : B → σ → Prop} {f : σ → Spec.Ev → σ}
    (hstep : ∀ b s e es, Sync b → Fresh b (e :: es) → R b s → R (applyEv auth b e).1 (f s e)) :
    ∀ (evs : List Spec.Ev) (b : B) (s : σ), Sync b → Fresh b evs → R b s →
      Sync (run auth b evs) ∧ R (run auth b evs) (evs.foldl f s)
  | [], _, _, hs, _, hr => ⟨hs, hr⟩
  | e :: es, b, s, hs, hf, hr => by
      obtain ⟨hs', hf'⟩ := applyEv_keeps auth b e es hs hf
      exact run_sim auth hstep es _ _ hs' hf' (hstep b s e es hs hf hr)

theorem applyEv_refines (auth : Auth) {m : Mode} (b : B) (S : Spec.SpecState) (e : Spec.Ev) (es : List Spec.Ev)
    (hs : Sync b) (hf : Fresh b (e :: es)) (hr : Refines b S ∧ b.mode = m) :
    Refines (applyEv auth b e).1 (Spec.apply auth S e) ∧ (applyEv auth b e).1.mode = m := by
  cases e with
  | accept n g =>
      refine ⟨refines_accept auth hr.1 n g (fun c hc hcn => hf.newNames c hc ?_), hr.2⟩
      rw [hcn]; simp [Spec.acceptNames]
  | req n r => exact ⟨refines_step auth hs hr.1 n r, (step_mode auth b n r hs).trans hr.2⟩
  | ban keys => exact ⟨⟨rfl, hr.1.nodup, hr.1.alive, hr.1.pairs⟩, hr.2⟩

/-- the specification state a pristine broker starts from: nobody connected, `A` empty -/
def Spec.init (b₀ : B) : Spec.SpecState := { banned := b₀.banned }

theorem refines_pristine {b : B} (h : Pristine b) : Refines b (Spec.init b) := by
  refine ⟨rfl, List.nodup_nil, fun n => ?_, fun n σ => ?_⟩ <;> simp [Spec.init, h.1]

theorem fresh_of_wellFormed {b : B} (h : Pristine b) {evs : List Spec.Ev} (hwf : Spec.wellFormed evs = true) :
    Fresh b evs := by
  simp only [Spec.wellFormed, Bool.and_eq_true, decide_eq_true_eq] at hwf
  exact ⟨hwf.1, hwf.2, fun c hc => absurd hc (h.not_mem c), fun c hc => absurd hc (h.not_mem c)⟩

/-- **the model refines the set of acknowledged, not yet removed subscriptions, for every
history**: after any well-formed history from a pristine broker, a connection holds a filter in
the model's bookkeeping (and hence, by `Sync`, in the subscription index) iff the pair is in the
specification's set `A`; the open connections are the same on both sides -/
theorem history_refines (auth : Auth) (b₀ : B) (h0 : Pristine b₀) (evs : List Spec.Ev)
    (hwf : Spec.wellFormed evs = true) :
    Sync (run auth b₀ evs) ∧ (run auth b₀ evs).mode = b₀.mode ∧
    Refines (run auth b₀ evs) (Spec.run auth (Spec.init b₀) evs) := by
  obtain ⟨hs, hr, hm⟩ := run_sim auth (R := fun b S => Refines b S ∧ b.mode = b₀.mode) (f := Spec.apply auth)
    (applyEv_refines auth) evs b₀ _ (sync_pristine h0)
    (fresh_of_wellFormed h0 hwf) ⟨refines_pristine h0, rfl⟩
  exact ⟨hs, hm, hr⟩

/-- the outputs that are PUBLISH deliveries -/
def isPub : String × Pkt → Bool
  | (_, .pub _ _) => true
  | _ => false

theorem holdsMatching_iff (m : Mode) (S : Spec.SpecState) (n : String) (ssid : Path) :
    Spec.holdsMatching m S n ssid = true ↔ ∃ f, (n, f) ∈ S.A ∧ matchesMode m f ssid = true := by
  unfold Spec.holdsMatching
  rw [List.any_eq_true]
  constructor
  · rintro ⟨⟨n', f⟩, hm, hc⟩
    simp only [Bool.and_eq_true, beq_iff_eq] at hc
    obtain ⟨rfl, hmt⟩ := hc
    exact ⟨f, hm, hmt⟩
  · rintro ⟨f, hm, hmt⟩
    exact ⟨(n, f), hm, by simp [hmt]⟩

theorem mem_receivers (m : Mode) (S : Spec.SpecState) (ssid : Path) (ex : Option String) (n : String) :
    n ∈ Spec.receivers m S ssid ex ↔
      n ∈ S.alive ∧ (∃ f, (n, f) ∈ S.A ∧ matchesMode m f ssid = true) ∧ ex ≠ some n := by
  unfold Spec.receivers
  rw [List.mem_filter, Bool.and_eq_true, holdsMatching_iff, bne_iff_ne]

/-- The excluded publisher is given as a record: `deliver` excludes by key, `Spec.receivers` by name, and
for one record of `b` the two agree. -/
theorem mem_deliver_refined {b : B} {S : Spec.SpecState} (hs : Sync b) (hr : Refines b S) (ssid : Path)
    (pkt : Pkt) (ex : Option Conn) (hex : ∀ x, ex = some x → x ∈ b.conns) (n : String) (p : Pkt) :
    (n, p) ∈ deliver b ssid (ex.map (·.key)) pkt ↔
      p = pkt ∧ n ∈ Spec.receivers b.mode S ssid (ex.map (·.name)) := by
  have hexcl : ∀ c ∈ b.conns, (ex.map (·.key) ≠ some c.key ↔ ex.map (·.name) ≠ some c.name) := by
    intro c hc
    cases ex with
    | none => simp
    | some x =>
        have hx := hex x rfl
        simp only [Option.map_some, ne_eq, Option.some.injEq]
        constructor
        · intro h1 h2; exact h1 (by rw [eq_of_name_eq hs.names hx hc h2])
        · intro h1 h2; exact h1 (hs.keys _ hx _ hc h2)
  rw [deliver_spec b hs, mem_receivers]
  refine and_congr_right fun _ => ⟨?_, ?_⟩
  · rintro ⟨c, hc, rfl, ha, ⟨f, hf, hmt⟩, hx⟩
    exact ⟨(hr.self_alive hs hc).2 ha, ⟨f, (hr.self_pairs hs hc f).2 hf, hmt⟩, (hexcl c hc).1 hx⟩
  · rintro ⟨h1, ⟨f, hf, hmt⟩, h3⟩
    obtain ⟨c, hc, rfl, ha⟩ := (hr.alive _).1 h1
    exact ⟨c, hc, rfl, ha, ⟨f, (hr.self_pairs hs hc f).1 hf, hmt⟩, (hexcl c hc).2 h3⟩

theorem deliver_refined {b : B} {S : Spec.SpecState} (hs : Sync b) (hr : Refines b S) (ssid : Path)
    (pkt : Pkt) (ex : Option Conn) (hex : ∀ x, ex = some x → x ∈ b.conns) :
    (deliver b ssid (ex.map (·.key)) pkt).Perm
      ((Spec.receivers b.mode S ssid (ex.map (·.name))).map (fun n => (n, pkt))) := by
  have hn1 : (deliver b ssid (ex.map (·.key)) pkt).Nodup :=
    List.Pairwise.of_map Prod.fst (fun _ _ h e => h (congrArg Prod.fst e)) (deliver_once b hs ssid _ pkt)
  have hn2 : ((Spec.receivers b.mode S ssid (ex.map (·.name))).map (fun n => (n, pkt))).Nodup :=
    List.Pairwise.map _ (fun _ _ (h : _ ≠ _) e => h (Prod.mk.inj e).1) (List.Pairwise.filter _ hr.nodup)
  rw [List.perm_ext_iff_of_nodup hn1 hn2]
  rintro ⟨n, p⟩
  rw [mem_deliver_refined hs hr ssid pkt ex hex, List.mem_map]
  constructor
  · rintro ⟨rfl, h⟩
    exact ⟨n, h, rfl⟩
  · rintro ⟨_, h, ⟨⟩⟩
    exact ⟨rfl, h⟩

theorem deliver_congr {b b' : B} (ht : b'.trie = b.trie) (hc : b'.conns = b.conns) (hm : b'.mode = b.mode)
    (ssid : Path) (excl : Option Sub) (pkt : Pkt) : deliver b' ssid excl pkt = deliver b ssid excl pkt := by
  unfold deliver; rw [ht, hc, hm]

theorem filter_isPub_deliver (b : B) (ssid : Path) (excl : Option Sub) (t p : Bytes) (rest : Out)
    (hrest : ∀ e ∈ rest, isPub e = false) :
    (deliver b ssid excl (.pub t p) ++ rest).filter isPub = deliver b ssid excl (.pub t p) := by
  have hpub : ∀ e ∈ deliver b ssid excl (.pub t p), isPub e = true := by
    rintro ⟨n, q⟩ he
    have : q = .pub t p := deliver_snd he
    subst this; rfl
  rw [List.filter_append, List.filter_eq_self.2 hpub, List.filter_eq_nil_iff.2 fun e he => by simp [hrest e he],
    List.append_nil]

/-- the PUBLISH packets of an accepted PUBLISH are one `deliver` in the state before, the publisher
excluded by its record -/
theorem publish_pubs (auth : Auth) {b : B} (hs : Sync b) (name : String) (c : Conn) (qos : UInt8) (retain : Bool)
    (mid : UInt16) (topic payload : Bytes) (g : Grant) (hc : b.conn? name = some c) (ha : c.alive = true)
    (hst : (parseChannel (resolve c topic)).ctype = chStatic)
    (hauth : auth b.banned (parseChannel (resolve c topic)) permWrite = some g) (hx : g.has permExtend = false) :
    (step auth b name (.publish qos retain mid topic payload)).2.filter isPub =
      deliver b (g.contract :: (parseChannel (resolve c topic)).query)
        ((if (parseChannel (resolve c topic)).exclude then some c else none).map (·.key))
        (.pub (parseChannel (resolve c topic)).channel payload) := by
  obtain ⟨h1, h2, h3⟩ := publish_exact auth b name c qos retain mid topic payload g hc ha hst hauth hx
  have hmode := step_mode auth b name (.publish qos retain mid topic payload) hs
  rw [h3, deliver_congr h1 h2 hmode, filter_isPub_deliver]
  · rw [Option.map_if]
  · intro e he
    split at he
    · simp only [List.mem_singleton] at he; subst he; rfl
    · cases he

theorem excluded_mem {b : B} {name : String} {c : Conn} (hc : b.conn? name = some c) (e : Bool) :
    ∀ x, (if e then some c else none) = some x → x ∈ b.conns := by
  intro x hx
  split at hx
  · cases hx; exact conn?_mem hc
  · cases hx

/-- **exact delivery, in one state**: for an accepted PUBLISH in a state related to the
specification state `S`, the PUBLISH packets the step emits are, as a multiset, one packet —
channel (key and options stripped) and payload unchanged — for every open connection holding in
`A` a filter that matches the channel, except the publisher when it excluded itself -/
theorem publish_refined (auth : Auth) {b : B} {S : Spec.SpecState} (hs : Sync b) (hr : Refines b S)
    (name : String) (c : Conn) (qos : UInt8) (retain : Bool) (mid : UInt16) (topic payload : Bytes) (g : Grant)
    (hc : b.conn? name = some c) (ha : c.alive = true)
    (hst : (parseChannel (resolve c topic)).ctype = chStatic)
    (hauth : auth b.banned (parseChannel (resolve c topic)) permWrite = some g) (hx : g.has permExtend = false) :
    ((step auth b name (.publish qos retain mid topic payload)).2.filter isPub).Perm
      ((Spec.receivers b.mode S (g.contract :: (parseChannel (resolve c topic)).query)
          (if (parseChannel (resolve c topic)).exclude then some name else none)).map
        (fun n => (n, Pkt.pub (parseChannel (resolve c topic)).channel payload))) := by
  rw [publish_pubs auth hs name c qos retain mid topic payload g hc ha hst hauth hx, ← conn?_name hc]
  have := deliver_refined hs hr (g.contract :: (parseChannel (resolve c topic)).query)
    (.pub (parseChannel (resolve c topic)).channel payload) _ (excluded_mem hc (parseChannel (resolve c topic)).exclude)
  rwa [Option.map_if (f := Conn.name)] at this

theorem Spec.mem_apply_A (auth : Auth) (S : Spec.SpecState) (e : Spec.Ev) (p : String × Path) :
    p ∈ (Spec.apply auth S e).A ↔
      Spec.removes auth S e p = false ∧ (p ∈ S.A ∨ Spec.adds auth S e = some p) := by
  obtain ⟨n, σ⟩ := p
  cases e with
  | accept n' g => simp [Spec.apply, Spec.removes, Spec.adds]
  | ban keys => simp [Spec.apply, Spec.removes, Spec.adds]
  | req name r =>
      simp only [Spec.apply, Spec.step, Spec.removes, Spec.adds]
      cases hal : S.alive.contains name
      · simp
      · cases Spec.effect auth S.banned r with
        | none => simp
        | add τ => simp [Spec.mem_insertPair, eq_comm]
        | remove τ => by_cases h : n = name <;> by_cases h' : σ = τ <;> simp [Spec.mem_removePair, h, h']
        | closeAll => by_cases h : n = name <;> simp [h]

theorem Spec.run_not_mem (auth : Auth) : ∀ (es : List Spec.Ev) (S : Spec.SpecState) (p : String × Path),
    p ∉ S.A → Spec.everAdds auth S es p = false → p ∉ (Spec.run auth S es).A
  | [], _, _, h, _ => h
  | e :: es, S, p, h, hno => by
      simp only [Spec.everAdds, Bool.or_eq_false_iff] at hno
      rw [Spec.run_cons]
      apply Spec.run_not_mem auth es _ p _ hno.2
      intro hin
      rcases ((Spec.mem_apply_A auth S e p).1 hin).2 with h1 | h1
      · exact h h1
      · rw [h1] at hno; simp at hno

theorem Spec.run_append (auth : Auth) (S : Spec.SpecState) (h₁ h₂ : List Spec.Ev) :
    Spec.run auth S (h₁ ++ h₂) = Spec.run auth (Spec.run auth S h₁) h₂ := by
  unfold Spec.run; rw [List.foldl_append]

theorem Spec.removed_stays (auth : Auth) (S₀ : Spec.SpecState) (h₁ : List Spec.Ev) (e : Spec.Ev) (h₂ : List Spec.Ev)
    (p : String × Path) (hrem : Spec.removes auth (Spec.run auth S₀ h₁) e p = true)
    (hno : Spec.everAdds auth (Spec.run auth S₀ (h₁ ++ [e])) h₂ p = false) :
    p ∉ (Spec.run auth S₀ (h₁ ++ e :: h₂)).A := by
  rw [List.append_cons, Spec.run_append]
  apply Spec.run_not_mem auth h₂ _ p _ hno
  rw [Spec.run_append]
  intro hin
  rw [((Spec.mem_apply_A auth _ e p).1 hin).1] at hrem
  cases hrem

theorem publish_history_exact (auth : Auth) (b₀ : B) (h0 : Pristine b₀) (evs : List Spec.Ev)
    (hwf : Spec.wellFormed evs = true)
    (name : String) (c : Conn) (qos : UInt8) (retain : Bool) (mid : UInt16) (topic payload : Bytes) (g : Grant)
    (hc : (run auth b₀ evs).conn? name = some c) (ha : c.alive = true)
    (hst : (parseChannel (resolve c topic)).ctype = chStatic)
    (hauth : auth (run auth b₀ evs).banned (parseChannel (resolve c topic)) permWrite = some g)
    (hx : g.has permExtend = false) :
    ((step auth (run auth b₀ evs) name (.publish qos retain mid topic payload)).2.filter isPub).Perm
      ((Spec.receivers b₀.mode (Spec.run auth (Spec.init b₀) evs) (g.contract :: (parseChannel (resolve c topic)).query)
          (if (parseChannel (resolve c topic)).exclude then some name else none)).map
        (fun n => (n, Pkt.pub (parseChannel (resolve c topic)).channel payload))) := by
  obtain ⟨hs, hm, hr⟩ := history_refines auth b₀ h0 evs hwf
  rw [← hm]
  exact publish_refined auth hs hr name c qos retain mid topic payload g hc ha hst hauth hx

theorem publish_history_iff (auth : Auth) (b₀ : B) (h0 : Pristine b₀) (evs : List Spec.Ev)
    (hwf : Spec.wellFormed evs = true)
    (name : String) (c : Conn) (qos : UInt8) (retain : Bool) (mid : UInt16) (topic payload : Bytes) (g : Grant)
    (hc : (run auth b₀ evs).conn? name = some c) (ha : c.alive = true)
    (hst : (parseChannel (resolve c topic)).ctype = chStatic)
    (hauth : auth (run auth b₀ evs).banned (parseChannel (resolve c topic)) permWrite = some g)
    (hx : g.has permExtend = false) :
    let S := Spec.run auth (Spec.init b₀) evs
    let ch := parseChannel (resolve c topic)
    let out := (step auth (run auth b₀ evs) name (.publish qos retain mid topic payload)).2.filter isPub
    (∀ n p, (n, p) ∈ out ↔
      p = .pub ch.channel payload ∧ n ∈ S.alive ∧
      (∃ f, (n, f) ∈ S.A ∧ matchesMode b₀.mode f (g.contract :: ch.query) = true) ∧
      ¬ (ch.exclude = true ∧ n = name)) ∧
    (out.map Prod.fst).Nodup := by
  intro S ch out
  obtain ⟨hs, hm, hr⟩ := history_refines auth b₀ h0 evs hwf
  have hout : out = _ := publish_pubs auth hs name c qos retain mid topic payload g hc ha hst hauth hx
  refine ⟨fun n p => ?_, by rw [hout]; exact deliver_once _ hs _ _ _⟩
  show (n, p) ∈ out ↔ _
  rw [hout, mem_deliver_refined hs hr _ _ _ (excluded_mem hc ch.exclude), mem_receivers, hm, ← conn?_name hc]
  refine and_congr_right fun _ => and_congr_right fun _ => and_congr_right fun _ => ?_
  cases ch.exclude <;> simp [eq_comm]

theorem removed_never_receives (auth : Auth) (b₀ : B) (h0 : Pristine b₀) (h₁ : List Spec.Ev) (e : Spec.Ev)
    (h₂ : List Spec.Ev) (hwf : Spec.wellFormed (h₁ ++ e :: h₂) = true) (n : String) (σ : Path)
    (hrem : Spec.removes auth (Spec.run auth (Spec.init b₀) h₁) e (n, σ) = true)
    (hno : Spec.everAdds auth (Spec.run auth (Spec.init b₀) (h₁ ++ [e])) h₂ (n, σ) = false) :
    let b := run auth b₀ (h₁ ++ e :: h₂)
    let S := Spec.run auth (Spec.init b₀) (h₁ ++ e :: h₂)
    (n, σ) ∉ S.A ∧
    (∀ x ∈ b.conns, x.name = n → ¬ hasCounter x σ ∧ (σ, x.key) ∉ b.trie.root.abs) ∧
    ∀ (name : String) (c : Conn) (qos : UInt8) (retain : Bool) (mid : UInt16) (topic payload : Bytes) (g : Grant),
      b.conn? name = some c → c.alive = true → (parseChannel (resolve c topic)).ctype = chStatic →
      auth b.banned (parseChannel (resolve c topic)) permWrite = some g → g.has permExtend = false →
      (∀ f, f ≠ σ → (n, f) ∈ S.A → matchesMode b₀.mode f (g.contract :: (parseChannel (resolve c topic)).query) = false) →
      ∀ p, (n, p) ∉ (step auth b name (.publish qos retain mid topic payload)).2.filter isPub := by
  intro b S
  have hout : (n, σ) ∉ S.A := Spec.removed_stays auth (Spec.init b₀) h₁ e h₂ (n, σ) hrem hno
  obtain ⟨hs, hm, hr⟩ := history_refines auth b₀ h0 (h₁ ++ e :: h₂) hwf
  refine ⟨hout, ?_, ?_⟩
  · intro x hx hxn
    have h1 : ¬ hasCounter x σ := by
      intro hh
      exact hout ((hr.pairs n σ).2 ⟨x, hx, hxn, hh⟩)
    exact ⟨h1, fun hh => h1 ((hs.self_pairs hx σ).1 hh).2⟩
  · intro name c qos retain mid topic payload g hc ha hst hauth hx hoth p hp
    have := ((publish_history_iff auth b₀ h0 (h₁ ++ e :: h₂) hwf name c qos retain mid topic payload g
      hc ha hst hauth hx).1 n p).1 hp
    obtain ⟨_, _, ⟨f, hf, hmt⟩, _⟩ := this
    by_cases hfe : f = σ
    · subst hfe; exact hout hf
    · rw [hoth f hfe hf] at hmt; cases hmt

theorem Spec.apply_mem_alive (auth : Auth) (S : Spec.SpecState) (e : Spec.Ev) (n : String)
    (h : n ∈ (Spec.apply auth S e).alive) : n ∈ S.alive ∨ n ∈ Spec.acceptNames [e] := by
  cases e with
  | accept n' g =>
      rcases List.mem_append.1 h with h | h
      · exact Or.inl h
      · right; simpa [Spec.acceptNames] using h
  | ban keys => exact Or.inl h
  | req name r =>
      left
      simp only [Spec.apply, Spec.step] at h
      split at h
      · exact h
      · split at h
        · exact h
        · exact h
        · exact h
        · exact (List.mem_filter.1 h).1

theorem Spec.acceptNames_cons (e : Spec.Ev) (es : List Spec.Ev) :
    Spec.acceptNames (e :: es) = Spec.acceptNames [e] ++ Spec.acceptNames es := by
  cases e <;> rfl

theorem Spec.acceptNames_append (h₁ h₂ : List Spec.Ev) :
    Spec.acceptNames (h₁ ++ h₂) = Spec.acceptNames h₁ ++ Spec.acceptNames h₂ := by
  induction h₁ with
  | nil => rfl
  | cons e es ih => rw [List.cons_append, Spec.acceptNames_cons, ih, Spec.acceptNames_cons e es, List.append_assoc]

theorem Spec.closed_stays (auth : Auth) (name : String) : ∀ (es : List Spec.Ev) (S : Spec.SpecState),
    name ∉ S.alive → name ∉ Spec.acceptNames es → name ∉ (Spec.run auth S es).alive
  | [], _, h1, _ => h1
  | e :: es, S, h1, h3 => by
      rw [Spec.acceptNames_cons, List.mem_append, not_or] at h3
      exact Spec.closed_stays auth name es _
        (fun hin => (Spec.apply_mem_alive auth S e name hin).elim h1 h3.1) h3.2

theorem Spec.close_not_alive (auth : Auth) (S : Spec.SpecState) (name : String) :
    name ∉ (Spec.apply auth S (.req name .close)).alive := by
  simp only [Spec.apply, Spec.step, Spec.effect]
  split
  · rename_i h; simpa using h
  · simp

theorem Refines.pairs_alive {b : B} {S : Spec.SpecState} (hs : Sync b) (hr : Refines b S) {n : String} {σ : Path}
    (h : (n, σ) ∈ S.A) : n ∈ S.alive := by
  obtain ⟨c, hc, hn, hp⟩ := (hr.pairs n σ).1 h
  exact (hr.alive n).2 ⟨c, hc, hn, hs.alive_of_counter hc hp⟩

theorem close_history_clean (auth : Auth) (b₀ : B) (h0 : Pristine b₀) (h₁ h₂ : List Spec.Ev) (name : String)
    (hwf : Spec.wellFormed (h₁ ++ .req name .close :: h₂) = true) (hacc : name ∈ Spec.acceptNames h₁) :
    let b := run auth b₀ (h₁ ++ .req name .close :: h₂)
    let S := Spec.run auth (Spec.init b₀) (h₁ ++ .req name .close :: h₂)
    name ∉ S.alive ∧ (∀ σ, (name, σ) ∉ S.A) ∧
    ∀ x ∈ b.conns, x.name = name → x.alive = false ∧ x.counters = [] ∧ ∀ σ, (σ, x.key) ∉ b.trie.root.abs := by
  intro b S
  obtain ⟨hs, _, hr⟩ := history_refines auth b₀ h0 _ hwf
  have hno : name ∉ Spec.acceptNames h₂ := by
    have hnd := (fresh_of_wellFormed h0 hwf).names
    rw [Spec.acceptNames_append, Spec.acceptNames_cons, List.nodup_append] at hnd
    intro hin
    exact hnd.2.2 name hacc name (List.mem_append.2 (Or.inr hin)) rfl
  have hS : name ∉ S.alive := by
    show name ∉ (Spec.run auth (Spec.init b₀) (h₁ ++ .req name .close :: h₂)).alive
    rw [Spec.run_append, Spec.run_cons]
    exact Spec.closed_stays auth name h₂ _ (Spec.close_not_alive auth _ name) hno
  refine ⟨hS, fun σ h => hS (hr.pairs_alive hs h), ?_⟩
  intro x hx hxn
  have hdead : x.alive = false := Bool.eq_false_iff.2 fun ha => hS (hxn ▸ (hr.self_alive hs hx).2 ha)
  have hnil := hs.dead x hx hdead
  exact ⟨hdead, hnil, fun σ hin => not_hasCounter_of_nil hnil σ ((hs.self_pairs hx σ).1 hin).2⟩

/-- **C18 in one state related to `S`**: the connections a presence status request lists (those the
subscription index returns for the channel) are exactly the open connections holding in `A` a
filter that matches it … -/
theorem status_refined {b : B} {S : Spec.SpecState} (hs : Sync b) (hr : Refines b S) (ssid : Path)
    (c : Conn) (hc : c ∈ b.conns) :
    (c.alive && ((b.trie.root.lookup b.mode ssid).eraseDups).contains c.key) = true ↔
      c.name ∈ Spec.receivers b.mode S ssid none := by
  rw [listed_iff b hs ssid c hc, mem_receivers, hr.self_alive hs hc]
  simp only [receives, hr.self_pairs hs hc, ne_eq, reduceCtorEq, not_false_eq_true, and_true]

/-- … and a presence notification about `ssid` goes, once each, to exactly the open connections
holding in `A` a presence-change subscription on the channel or on a parent of it -/
theorem notify_refined {b : B} {S : Spec.SpecState} (hs : Sync b) (hr : Refines b S) (event : String)
    (c : Conn) (ssid : Path) (channel : Bytes) :
    (notify b event c ssid channel).Perm
      ((Spec.receivers b.mode S (presenceSsid ssid) none).map
        (fun n => (n, Pkt.json (strBytes "emitter/presence/") (notifyFields event c channel)))) := by
  rw [notify_eq]
  exact deliver_refined hs hr (presenceSsid ssid) _ none (by intro x hx; cases hx)

theorem status_history (auth : Auth) (b₀ : B) (h0 : Pristine b₀) (evs : List Spec.Ev)
    (hwf : Spec.wellFormed evs = true) (ssid : Path) (c : Conn) (hc : c ∈ (run auth b₀ evs).conns) :
    (c.alive && (((run auth b₀ evs).trie.root.lookup b₀.mode ssid).eraseDups).contains c.key) = true ↔
      c.name ∈ Spec.receivers b₀.mode (Spec.run auth (Spec.init b₀) evs) ssid none := by
  obtain ⟨hs, hm, hr⟩ := history_refines auth b₀ h0 evs hwf
  rw [← hm]
  exact status_refined hs hr ssid c hc

theorem notify_history (auth : Auth) (b₀ : B) (h0 : Pristine b₀) (evs : List Spec.Ev)
    (hwf : Spec.wellFormed evs = true) (event : String) (c : Conn) (ssid : Path) (channel : Bytes) :
    (notify (run auth b₀ evs) event c ssid channel).Perm
      ((Spec.receivers b₀.mode (Spec.run auth (Spec.init b₀) evs) (presenceSsid ssid) none).map
        (fun n => (n, Pkt.json (strBytes "emitter/presence/") (notifyFields event c channel)))) := by
  obtain ⟨hs, hm, hr⟩ := history_refines auth b₀ h0 evs hwf
  rw [← hm]
  exact notify_refined hs hr event c ssid channel

end Emitter.Broker
