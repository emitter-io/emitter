/-
  Lemmas for C09 about the model in Emitter/Model/Hostile.lean: what `DecodePacket` consumes and
  allocates, containment of panics under `Conn.Process` and the gossip callbacks, the allocation
  bounds, and why an accepted state payload cannot make `State.Merge` panic.
-/
import Emitter.Model.Hostile
import Emitter.Lemmas.Mqtt

namespace Emitter.Hostile
open Emitter

section
variable {first : UInt8} {r0 r1 : Bytes} {len : UInt32}

/-- Once the length loop has returned, `mqttAlloc` and `decode` branch alike: on `isPingType`
(the disjunction of `decode`'s first three tests), then on the size check. -/
theorem mqttAlloc_cons (max : Nat) (hl : Mqtt.decodeLen r0 1 0 = .ok (len, r1)) :
    mqttAlloc (first :: r0) max =
      if isPingType ((first &&& 0xf0) >>> 4) then 0 else if len.toNat > max then 0 else len.toNat := by
  simp only [mqttAlloc, hl]

theorem decode_ping (max : Nat) (hl : Mqtt.decodeLen r0 1 0 = .ok (len, r1))
    (hp : isPingType ((first &&& 0xf0) >>> 4) = true) : ∃ p, Mqtt.decode (first :: r0) max = .ok (p, r1) := by
  simp only [Mqtt.decode, hl]
  simp only [isPingType, Bool.or_eq_true] at hp
  -- the first of the three tests that holds decides which packet
  by_cases h1 : ((first &&& 0xf0) >>> 4 == Mqtt.tyPingreq) = true
  · exact ⟨_, if_pos h1⟩
  by_cases h2 : ((first &&& 0xf0) >>> 4 == Mqtt.tyPingresp) = true
  · exact ⟨_, (if_neg h1).trans (if_pos h2)⟩
  have h3 : ((first &&& 0xf0) >>> 4 == Mqtt.tyDisconnect) = true := hp.resolve_left (·.elim h1 h2)
  exact ⟨_, (if_neg h1).trans ((if_neg h2).trans (if_pos h3))⟩

theorem decode_body (max : Nat) (hl : Mqtt.decodeLen r0 1 0 = .ok (len, r1))
    (hp : isPingType ((first &&& 0xf0) >>> 4) = false) :
    Mqtt.decode (first :: r0) max =
      if len.toNat > max then .err "too-large"
      else if r1.length < len.toNat then .err "eof"
      else (Mqtt.decodeBody ((first &&& 0xf0) >>> 4) (Mqtt.headerOf ((first &&& 0xf0) >>> 4) first) (r1.take len.toNat)).map
        (fun p => (p, r1.drop len.toNat)) := by
  simp only [isPingType, Bool.or_eq_false_iff] at hp
  simp only [Mqtt.decode, hl, hp.1.1, hp.1.2, hp.2, Bool.false_eq_true, if_false]

theorem decode_ok_shape {max : Nat} {p : Mqtt.Packet} {rest : Bytes} (h : Mqtt.decode (first :: r0) max = .ok (p, rest)) :
    ∃ len r1, Mqtt.decodeLen r0 1 0 = .ok (len, r1) ∧ mqttAlloc (first :: r0) max ≤ r1.length ∧
      rest = r1.drop (mqttAlloc (first :: r0) max) := by
  cases hl : Mqtt.decodeLen r0 1 0 with
  | err e | panic w => simp only [Mqtt.decode, hl] at h; cases h
  | ok v =>
    obtain ⟨len, r1⟩ := v
    refine ⟨len, r1, rfl, ?_⟩
    rw [mqttAlloc_cons max hl]
    cases hp : isPingType ((first &&& 0xf0) >>> 4) with
    | true =>
      obtain ⟨q, hq⟩ := decode_ping (first := first) max hl hp
      rw [hq] at h
      cases h
      exact ⟨Nat.zero_le _, rfl⟩
    | false =>
      rw [decode_body max hl hp, Outcome.ite_err_eq_ok, Outcome.ite_err_eq_ok] at h
      obtain ⟨hbig, hshort, h⟩ := h
      obtain ⟨q, _, hq⟩ := Outcome.map_eq_ok.mp h
      cases hq
      rw [if_neg hbig]
      exact ⟨Nat.le_of_not_lt hshort, rfl⟩

end

def Facts.connSafe (f : Facts) : Prop := f.processDefersClose = true ∧ f.closeRecovers = true

theorem Facts.connSafe_of_sound {f : Facts} (h : f.sound = true) : f.connSafe := by
  simp only [Facts.sound, Bool.and_eq_true] at h
  exact ⟨h.1.1.1.1, h.1.1.1.2⟩

theorem connFate_not_fatal {α} (f : Facts) (hf : f.connSafe) (o : Outcome α) : connFate f o ≠ .fatal := by
  obtain ⟨h1, h2⟩ := hf
  cases o <;> simp [connFate, h1, h2]

theorem connFate_panic_closed {α} (f : Facts) (hf : f.connSafe) (w : String) :
    connFate f (.panic w : Outcome α) = .closed := by
  obtain ⟨h1, h2⟩ := hf
  simp [connFate, h1, h2]

theorem step_down (f : Facts) (hf : f.connSafe) (b : Broker) (c : Nat) (o : Outcome Unit) :
    (b.step f c o).down = b.down := by
  fun_cases Broker.step f b c o with
  | case5 _ h =>  -- verdict fatal: excluded by connSafe
    exact absurd h (connFate_not_fatal f hf o)
  | _ => rfl

theorem get_closeConn (b : Broker) (c c' : Nat) :
    ({ b with conns := closeConn c b.conns } : Broker).get c' =
      (b.get c').map fun st => if c' = c then { alive := false, subs := [] } else st := by
  show ((closeConn c b.conns).find? _).map _ = ((b.conns.find? _).map _).map _
  generalize b.conns = l
  -- `closeConn` keeps the keys: the entry found is the same one, closed iff its key is `c`
  fun_induction closeConn c l with
  | case1 => rfl
  | case2 k st rest hk ih =>  -- the head is connection `c`: its record is closed
    rw [List.find?_cons, List.find?_cons]
    cases hk' : k == c' with
    | false => exact ih
    | true => simp [← beq_iff_eq.mp hk', beq_iff_eq.mp hk]
  | case3 k st rest hk ih =>  -- another connection: its record is kept
    rw [List.find?_cons, List.find?_cons]
    cases hk' : k == c' with
    | false => exact ih
    | true => simp [← beq_iff_eq.mp hk', show k ≠ c from fun e => hk (beq_iff_eq.mpr e)]

theorem step_frame (f : Facts) (b : Broker) (c c' : Nat) (o : Outcome Unit) (h : c' ≠ c) :
    (b.step f c o).get c' = b.get c' := by
  fun_cases Broker.step f b c o with
  | case4 =>  -- verdict closed: closeConn changes c's record only
    simp [get_closeConn, h]
  | _ => rfl

theorem step_panic_closes (f : Facts) (hf : f.connSafe) (b : Broker) (c : Nat) (w : String) (st : ConnSt)
    (hd : b.down = false) (hc : b.get c = some st) :
    (b.step f c (.panic w)).get c = some { alive := false, subs := [] } ∧ (b.step f c (.panic w)).down = false := by
  have hs : b.step f c (.panic w) = { b with conns := closeConn c b.conns } := by
    simp only [Broker.step, hd, connFate_panic_closed f hf, Bool.false_eq_true, if_false]
  rw [hs, get_closeConn, hc]
  exact ⟨by simp, hd⟩

theorem run_down (f : Facts) (hf : f.connSafe) (b : Broker) (h : List (Nat × Outcome Unit)) :
    (b.run f h).down = b.down := by
  fun_induction Broker.run f b h with
  | case1 => rfl
  | case2 _ _ _ _ ih => rw [ih, step_down f hf]

theorem run_frame (f : Facts) (c' : Nat) (h : List (Nat × Outcome Unit)) (b : Broker)
    (hne : ∀ x ∈ h, x.1 ≠ c') : (b.run f h).get c' = b.get c' := by
  fun_induction Broker.run f b h with
  | case1 => rfl
  | case2 b c o _ ih =>
    have ⟨h1, h2⟩ := List.forall_mem_cons.mp hne
    rw [ih h2, step_frame f b c c' o (Ne.symm h1)]

theorem streamFate_not_fatal (f : Facts) (hf : f.connSafe) (max fuel : Nat) (s : Bytes) :
    streamFate f max fuel s ≠ .fatal := by
  fun_induction streamFate f max fuel s with
  | case3 _ _ _ _ _ _ _ ih =>  -- a packet decoded and the stream got shorter: the rest of the stream
    exact ih
  | case5 =>  -- decode failed: connFate of the failure
    exact connFate_not_fatal f hf _
  | _ => exact Verdict.noConfusion

theorem contain_not_fatal {α} (o : Outcome α) : contain true o ≠ .fatal := by
  cases o <;> exact Verdict.noConfusion

/-- the common shape of the three gossip callbacks below the preamble check: refused, corrupt,
or an outcome contained by the callback's recover -/
theorem guarded_not_fatal {α} {recovers : Bool} (hr : recovers = true) (refuse : Bool) (inner : Option Bytes)
    (k : Bytes → Outcome α) :
    (if refuse then Verdict.rejected else
      match inner with
      | none => .rejected
      | some i => contain recovers (k i)) ≠ .fatal := by
  subst hr
  split
  · exact Verdict.noConfusion
  · split
    · exact Verdict.noConfusion
    · exact contain_not_fatal _

/-- without the recover a panicking payload IS fatal: `gossip_total` would be false of a callback
that does not defer one (cf. `C09.gossip_needs_recover`) -/
theorem contain_fatal_without_recover {α} (w : String) : contain false (.panic w : Outcome α) = .fatal := rfl

theorem blockAlloc_le (raw : Bytes) : blockAlloc raw ≤ 32 * raw.length := by
  fun_cases blockAlloc raw with
  | case2 _ _ h =>  -- the announced size passed the 32× test
    exact Nat.le_of_not_gt h
  | _ => exact Nat.zero_le _

theorem frameCount_le {inner : Bytes} {l : Nat} (h : frameCount inner = some l) : l ≤ inner.length / 3 := by
  revert h
  fun_cases frameCount inner with
  | case2 l' rest hu hle =>  -- the count passed the third-of-the-buffer test
    intro h
    cases h
    exact Nat.le_of_not_gt hle
  | _ => intro h; cases h

theorem frameAlloc_le (inner : Bytes) : frameAlloc inner ≤ msgStruct * (inner.length / 3) := by
  fun_cases frameAlloc inner with
  | case1 _ h =>  -- a count was admitted
    exact Nat.mul_le_mul_left _ (frameCount_le h)
  | case2 => exact Nat.zero_le _

/-- what the repaired `codecVolatile.DecodeTo` checks: every value holds its two 8-byte times,
which `Value.AddTime` / `DelTime` slice out without a bounds check -/
abbrev GoodSet (es : List Entry) : Prop := ∀ e ∈ es, 16 ≤ e.2.length

theorem decodeEntries_good {total n : Nat} {bs : Bytes} {es : List Entry} {r : Bytes}
    (h : decodeEntries total n bs = .ok (es, r)) : GoodSet es := by
  fun_induction decodeEntries total n bs generalizing es r with
  | case1 => cases h; exact fun _ he => nomatch he
  | case3 n bs k b1 hk v b2 hv hlen es' b3 hrec ih =>  -- key read, value of ≥ 16 bytes read, remaining entries decoded
    cases h
    exact List.forall_mem_cons.mpr ⟨Nat.le_of_not_lt hlen, ih hrec⟩
  | _ => cases h

theorem decodeSet_good {total : Nat} {bs : Bytes} {es : List Entry} {r : Bytes}
    (h : decodeSet total bs = .ok (es, r)) : GoodSet es := by
  unfold decodeSet at h
  split at h
  · exact decodeEntries_good h
  · cases h

abbrev GoodSets (sets : List (Nat × List Entry)) : Prop := ∀ s ∈ sets, GoodSet s.2

theorem decodeSets_good {total n : Nat} {bs : Bytes} {sets : List (Nat × List Entry)}
    (h : decodeSets total n bs = .ok sets) : GoodSets sets := by
  fun_induction decodeSets total n bs generalizing sets with
  | case1 => cases h; exact fun _ he => nomatch he
  | case2 n bs typ rest hu es bs' hset sets' hrec ih =>  -- type key, its set and the remaining sets decoded
    cases h
    exact List.forall_mem_cons.mpr ⟨decodeSet_good hset, ih hrec⟩
  | _ => cases h

theorem decodeState_good {inner : Bytes} {sets : List (Nat × List Entry)}
    (h : decodeState inner = .ok sets) : GoodSets sets := by
  unfold decodeState at h
  split at h
  · exact decodeSets_good h
  · cases h

theorem putEntry_good (k v : Bytes) (hv : 16 ≤ v.length) (m : List Entry) (hm : GoodSet m) :
    GoodSet (putEntry k v m) := by
  fun_induction putEntry k v m with
  | case1 =>  -- empty map
    exact List.forall_mem_cons.mpr ⟨hv, hm⟩
  | case2 =>  -- key found: value replaced
    exact List.forall_mem_cons.mpr ⟨hv, (List.forall_mem_cons.mp hm).2⟩
  | case3 _ _ _ _ ih =>  -- another key: recursion
    have ⟨h1, h2⟩ := List.forall_mem_cons.mp hm
    exact List.forall_mem_cons.mpr ⟨h1, ih h2⟩

theorem asMap_good (es : List Entry) (h : GoodSet es) : GoodSet (asMap es) :=
  List.foldlRecOn es _ (fun _ he => nomatch he) fun m hm x hx => putEntry_good _ _ (h x hx) m hm

theorem setOf_good (t : Nat) (sets : List (Nat × List Entry)) (h : GoodSets sets) : GoodSet (setOf t sets) := by
  unfold setOf
  split
  next _ es heq => exact asMap_good es (h _ (List.mem_reverse.mp (List.mem_of_find?_eq_some heq)))
  next => exact fun _ he => nomatch he

theorem mergeFresh_ok (es : List Entry) (h : GoodSet es) : ∃ n, mergeFresh es = .ok n := by
  induction es with
  | nil => exact ⟨0, rfl⟩
  | cons x rest ih =>
    have ⟨hv, ht⟩ := List.forall_mem_cons.mp h
    obtain ⟨n, hn⟩ := ih ht
    simp only [mergeFresh, times, Nat.not_lt.mpr hv, if_false, hn]
    exact ⟨_, rfl⟩

theorem mergeState_ok (sets : List (Nat × List Entry)) (h : GoodSets sets) : ∃ n, mergeState sets = .ok n := by
  obtain ⟨a, ha⟩ := mergeFresh_ok _ (setOf_good 0 sets h)
  obtain ⟨b, hb⟩ := mergeFresh_ok _ (setOf_good 1 sets h)
  obtain ⟨c, hc⟩ := mergeFresh_ok _ (setOf_good 2 sets h)
  exact ⟨a + b + c, by simp [mergeState, ha, hb, hc]⟩

theorem lookupLoop_bounds (limit : Int) (count bytes : Nat) (sizes : List Nat) (hb : bytes ≤ maxReply) :
    bytes + (lookupLoop limit count bytes sizes).sum ≤ maxReply ∧
    (lookupLoop limit count bytes sizes).length ≤ (limit - count).toNat ∧
    (lookupLoop limit count bytes sizes).length ≤ sizes.length := by
  fun_induction lookupLoop limit count bytes sizes with
  | case4 count bytes s rest hlim hfit ih =>  -- within the limit and the reply size: the entry is appended
    obtain ⟨h1, h2, h3⟩ := ih (Nat.le_of_not_gt hfit)
    refine ⟨?_, ?_, Nat.succ_le_succ h3⟩
    · rw [List.sum_cons, ← Nat.add_assoc]; exact h1
    · rw [List.length_cons]; omega
  | _ => exact ⟨hb, Nat.zero_le _, Nat.zero_le _⟩

end Emitter.Hostile
