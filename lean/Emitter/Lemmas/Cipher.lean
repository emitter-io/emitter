/-
  Lemmas about the cipher model (Model/Cipher.lean): base64 encode / decode are inverse on whole
  groups, the XTEA block functions and the three key ciphers are inverse permutations, and
  `decryptKey` is total. Used by C12 and C20.
-/
import Emitter.Model.Cipher
namespace Emitter.Cipher
open Emitter

/-! ### base64

The alphabet and the decode table are inverse to each other: `alphabet_decode` and
`decodeTable_inv` are the two evaluations, one pass over each list; what else is said of them here follows. -/

theorem encChar_eq {i : Nat} (h : i < 64) : encChar i = alphabet[i]'h := by
  rw [encChar, List.getD_eq_getElem?_getD, List.getElem?_eq_getElem (show i < alphabet.length from h)]; rfl

/-- one pass over the 64 characters: each decodes to its index -/
theorem alphabet_decode : alphabet.zipIdx.all (fun p => decodeMap p.1 == UInt8.ofNat p.2) = true := by decide +kernel

theorem decodeMap_encChar {i : Nat} (h : i < 64) : decodeMap (encChar i) = UInt8.ofNat i := by
  have hm : (encChar i, i) ∈ alphabet.zipIdx :=
    List.mk_mem_zipIdx_iff_getElem?.2 (by rw [encChar_eq h]; exact List.getElem?_eq_getElem _)
  simpa using List.all_eq_true.1 alphabet_decode _ hm

/-- one pass over the 256 entries (indexing each entry from a `Fin 256` costs ten times as much):
an entry other than the marker is a sextet and the alphabet maps it back to its index -/
theorem decodeTable_inv : Generated.base64DecodeMap.zipIdx.all (fun p =>
    p.1 == 0xFF || (decide (p.1.toNat < 64) && encChar p.1.toNat == UInt8.ofNat p.2)) = true := by
  decide +kernel

theorem encChar_decodeMap (c : UInt8) (h : ¬ (decodeMap c == 0xFF) = true) :
    (decodeMap c).toNat < 64 ∧ encChar (decodeMap c).toNat = c := by
  -- `decodeMap` reads 0xFF past the end of the table, so a valid `c` indexes an entry
  have hc : Generated.base64DecodeMap[c.toNat]? = some (decodeMap c) := by
    cases hq : Generated.base64DecodeMap[c.toNat]? with
    | none => exact absurd (by simp [decodeMap, List.getD_eq_getElem?_getD, hq]) h
    | some d => simp [decodeMap, List.getD_eq_getElem?_getD, hq]
  have := List.all_eq_true.1 decodeTable_inv (decodeMap c, c.toNat) (List.mk_mem_zipIdx_iff_getElem?.2 hc)
  simpa [h] using this

theorem sextet_ne_ff {i : Nat} (h : i < 64) : (UInt8.ofNat i == 0xFF) = false := by
  rw [beq_eq_false_iff_ne, ne_eq, UInt8.ofNat_eq_iff_mod_eq_toNat]
  show ¬ i % 256 = 255
  omega

theorem sextet_toNat {i : Nat} (h : i < 64) : (UInt8.ofNat i).toNat = i :=
  UInt8.toNat_ofNat_of_lt' (by show i < 256; omega)

/-- the three facts about a sextet in the shape the encoder produces it, `n % 64` -/
theorem sextet_mod (n : Nat) : decodeMap (encChar (n % 64)) = UInt8.ofNat (n % 64) ∧
    (UInt8.ofNat (n % 64) == 0xFF) = false ∧ (UInt8.ofNat (n % 64)).toNat = n % 64 :=
  have h : n % 64 < 64 := Nat.mod_lt n (by decide)
  ⟨decodeMap_encChar h, sextet_ne_ff h, sextet_toNat h⟩

theorem encChar_inj {i j : Nat} (hi : i < 64) (hj : j < 64) (h : encChar i = encChar j) : i = j := by
  -- the decode table is a left inverse of `encChar`
  have := congrArg (fun c => (decodeMap c).toNat) h
  simp only [decodeMap_encChar hi, decodeMap_encChar hj, sextet_toNat hi, sextet_toNat hj] at this
  exact this

theorem alphabet_nodup : alphabet.Nodup := by
  rw [List.nodup_iff_pairwise_ne, List.pairwise_iff_getElem]
  intro i j hi hj hij h
  rw [← encChar_eq hi, ← encChar_eq hj] at h
  exact absurd (encChar_inj hi hj h) (by omega)

theorem decodeMap_eq_spec (c : UInt8) : decodeMap c = decodeMapSpec c := by
  unfold decodeMapSpec
  by_cases h : (decodeMap c == 0xFF) = true
  · -- an alphabet character decodes to its index, never to the marker
    have : ¬ alphabet.idxOf c < 64 := fun hi => by
      have e := decodeMap_encChar hi
      rw [encChar_eq hi, List.getElem_idxOf hi] at e
      rw [e, sextet_ne_ff hi] at h
      cases h
    simpa [this] using h
  · obtain ⟨hlt, he⟩ := encChar_decodeMap c h
    have hm : alphabet.idxOf c < 64 :=
      List.idxOf_lt_length_iff.2 (by rw [← he, encChar_eq hlt]; exact List.getElem_mem _)
    have : alphabet.idxOf c = (decodeMap c).toNat := by
      apply encChar_inj hm hlt
      rw [he, encChar_eq hm, List.getElem_idxOf hm]
    simp [this, hlt]

/-! A group is a 24-bit value `v`, written in three base-256 digits or in four base-64 digits.
The base-256 side is `be24_digits` and `be24_bytes`; the base-64 side is the next three lemmas, about natural
numbers only. -/

theorem sextets_join (v : Nat) (hv : v < 16777216) :
    v / 262144 % 64 * 262144 + v / 4096 % 64 * 4096 + v / 64 % 64 * 64 + v % 64 = v := by omega

theorem sextets_of_join (v A B C D : Nat) (hv : v = A * 262144 + B * 4096 + C * 64 + D)
    (hA : A < 64) (hB : B < 64) (hC : C < 64) (hD : D < 64) :
    v < 16777216 ∧ v / 262144 % 64 = A ∧ v / 4096 % 64 = B ∧ v / 64 % 64 = C ∧ v % 64 = D := by omega

/-- a value whose last byte (last two bytes) is zero has its last sextet (last two sextets) zero:
the tails of `b64Encode` do not write them -/
theorem sextets_join_tail {v : Nat} (hv : v < 16777216) (h0 : v % 256 = 0) :
    v / 262144 % 64 * 262144 + v / 4096 % 64 * 4096 + v / 64 % 64 * 64 = v ∧
    (v / 256 % 256 = 0 → v / 262144 % 64 * 262144 + v / 4096 % 64 * 4096 = v) := by
  have z0 : v % 64 = 0 := by omega
  have z1 : v / 256 % 256 = 0 → v / 64 % 64 = 0 := by omega
  have e := sextets_join v hv
  rw [z0, Nat.add_zero] at e
  refine ⟨e, fun h1 => ?_⟩
  rwa [z1 h1, Nat.zero_mul, Nat.add_zero] at e

theorem decodeKeyAux_group (v : Nat) (hv : v < 16777216) (rest : Bytes) (idx : Nat) :
    decodeKeyAux (encChar (v / 262144 % 64) :: encChar (v / 4096 % 64) :: encChar (v / 64 % 64) :: encChar (v % 64) :: rest) idx
      = (decodeKeyAux rest (idx + 4)).map (UInt8.ofNat (v / 65536) :: UInt8.ofNat (v / 256) :: UInt8.ofNat v :: ·) := by
  simp only [decodeKeyAux, sextet_mod, Bool.false_eq_true,
    if_false, sextets_join v hv]
  cases decodeKeyAux rest (idx + 4) <;> rfl

theorem b64Encode_group (v : Nat) (hv : v < 16777216) (r : Bytes) :
    b64Encode (UInt8.ofNat (v / 65536) :: UInt8.ofNat (v / 256) :: UInt8.ofNat v :: r)
      = encChar (v / 262144 % 64) :: encChar (v / 4096 % 64) :: encChar (v / 64 % 64) :: encChar (v % 64) :: b64Encode r := by
  rw [b64Encode]
  simp only [be24_digits v hv]

theorem decodeKeyAux_encode (bs : Bytes) (idx : Nat) : decodeKeyAux (b64Encode bs) idx = .ok bs := by
  induction bs using b64Encode.induct generalizing idx with
  | case1 a b c rest ih =>
      -- a whole group of three bytes
      obtain ⟨hv, e⟩ := be24_bytes a b c _ rfl
      rw [b64Encode, decodeKeyAux_group _ hv, ih]
      exact congrArg (fun l => Outcome.ok (l ++ rest)) e
  | case2 a b =>
      -- a tail of two bytes: three characters; the group is `[a, b, 0]`
      obtain ⟨hv, e⟩ := be24_bytes a b 0 (a.toNat * 65536 + b.toNat * 256) (by simp)
      obtain ⟨ea, e⟩ := List.cons_eq_cons.1 e
      obtain ⟨eb, -⟩ := List.cons_eq_cons.1 e
      simp only [b64Encode, decodeKeyAux, sextet_mod,
        Bool.false_eq_true, if_false, (sextets_join_tail hv (by omega)).1, ea, eb]
  | case3 a =>
      -- a tail of one byte: two characters; the group is `[a, 0, 0]`
      obtain ⟨hv, e⟩ := be24_bytes a 0 0 (a.toNat * 65536) (by simp)
      obtain ⟨ea, -⟩ := List.cons_eq_cons.1 e
      simp only [b64Encode, decodeKeyAux, sextet_mod,
        Bool.false_eq_true, if_false, (sextets_join_tail hv (by omega)).2 (by omega), ea]
  | case4 => rfl   -- the end

theorem b64Encode_valid (bs : Bytes) : ∀ ch ∈ b64Encode bs, (decodeMap ch == 0xFF) = false := by
  have key (n : Nat) : (decodeMap (encChar (n % 64)) == 0xFF) = false := by
    rw [(sextet_mod n).1]; exact (sextet_mod n).2.1
  induction bs using b64Encode.induct with
  | case1 a b c rest ih => simp only [b64Encode, List.forall_mem_cons, key, true_and]; exact ih
  | case2 a b | case3 a => simp only [b64Encode, List.forall_mem_cons, key, true_and]; exact fun _ h => nomatch h
  | case4 => exact fun _ h => nomatch h

theorem b64Encode_length (bs : Bytes) : (b64Encode bs).length = (bs.length * 4 + 2) / 3 := by
  induction bs using b64Encode.induct with
  | case1 a b c rest ih => simp only [b64Encode, List.length_cons, ih]; omega
  | case2 a b | case3 a => simp [b64Encode]
  | case4 => rfl

/-- on whole groups the decoder is also a right inverse: only the string `b64Encode r` decodes to `r` -/
theorem b64Encode_decodeKeyAux (s : Bytes) (idx : Nat) (r : Bytes) (h : decodeKeyAux s idx = .ok r)
    (hlen : s.length % 4 = 0) : b64Encode r = s := by
  fun_induction decodeKeyAux s idx generalizing r with
  | case5 a b c d rest idx da db dc dd h1 h2 h3 h4 v r' hr ih =>
      -- four valid characters, and the rest decodes to `r'`
      cases h
      have va : da.toNat < 64 ∧ encChar da.toNat = a := encChar_decodeMap a h1
      have vb : db.toNat < 64 ∧ encChar db.toNat = b := encChar_decodeMap b h2
      have vc : dc.toNat < 64 ∧ encChar dc.toNat = c := encChar_decodeMap c h3
      have vd : dd.toNat < 64 ∧ encChar dd.toNat = d := encChar_decodeMap d h4
      obtain ⟨hv, q0, q1, q2, q3⟩ := sextets_of_join v da.toNat db.toNat dc.toNat dd.toNat rfl va.1 vb.1 vc.1 vd.1
      rw [b64Encode_group v hv, ih r' hr (by simp at hlen; omega), q0, q1, q2, q3, va.2, vb.2, vc.2, vd.2]
  | case6 a b c d rest idx da db dc dd h1 h2 h3 h4 hne ih =>
      -- four valid characters, but the rest does not decode: neither does the whole
      cases hr : decodeKeyAux rest (idx + 4) with
      | ok x => exact absurd hr (hne x)
      | err e | panic w => simp [hr] at h
  | case10 => simp at hlen      -- a tail of three characters
  | case13 => simp at hlen      -- a tail of two characters
  | case15 => cases h; rfl      -- the empty string
  | _ => cases h                -- every other branch returns an error

theorem decodeKeyAux_nopanic (s : Bytes) (idx : Nat) (w : String) : decodeKeyAux s idx ≠ .panic w := by
  fun_induction decodeKeyAux s idx <;> simp_all

/-- a string of whole groups with a character outside the alphabet is rejected: it is not the
encoding of anything, and the decoder does not panic -/
theorem decodeKeyAux_err (s : Bytes) (idx : Nat) (h4 : s.length % 4 = 0)
    (h : ∃ ch ∈ s, (decodeMap ch == 0xFF) = true) : ∃ e, decodeKeyAux s idx = .err e := by
  match hd : decodeKeyAux s idx with
  | .ok r =>
      obtain ⟨ch, hm, hc⟩ := h
      rw [← b64Encode_decodeKeyAux s idx r hd h4] at hm
      rw [b64Encode_valid r ch hm] at hc
      cases hc
  | .err e => exact ⟨e, rfl⟩
  | .panic w => exact absurd hd (decodeKeyAux_nopanic s idx w)

/-! ### XTEA -/

theorem iter_succ' {α} (f : α → α) (n : Nat) (a : α) : iter f (n + 1) a = f (iter f n a) := by
  induction n generalizing a with
  | zero => rfl
  | succ n ih => simp only [iter] at ih ⊢; rw [ih]

theorem iter_inv {α} {f g : α → α} (h : ∀ a, g (f a) = a) (n : Nat) (a : α) : iter g n (iter f n a) = a := by
  induction n generalizing a with
  | zero => rfl
  | succ n ih => rw [iter_succ' f, iter, h, ih]

theorem decRound_encRound (k : XteaKey) (st : UInt32 × UInt32 × UInt32) : decRound k (encRound k st) = st := by
  simp [decRound, encRound, UInt32.add_sub_cancel]

theorem encRound_decRound (k : XteaKey) (st : UInt32 × UInt32 × UInt32) : encRound k (decRound k st) = st := by
  simp [decRound, encRound, UInt32.sub_add_cancel]

theorem encRound_sum (k : XteaKey) (n : Nat) (st : UInt32 × UInt32 × UInt32) :
    (iter (encRound k) n st).2.2 = st.2.2 + UInt32.ofNat n * xteaDelta := by
  induction n generalizing st with
  | zero => simp [iter]
  | succ n ih =>
      simp only [iter]
      rw [ih]
      simp only [encRound]
      rw [UInt32.ofNat_add n 1, show UInt32.ofNat 1 = 1 from rfl, UInt32.add_mul, UInt32.one_mul, UInt32.add_assoc, UInt32.add_comm xteaDelta]

/-- regenerated constants: the decipher start value is `delta * rounds` -/
theorem xteaSum_eq : xteaSum = UInt32.ofNat xteaRounds * xteaDelta := by decide

/-- enciphering runs the sum from 0 up to `xteaSum`, deciphering runs it back down -/
theorem decBlock_encBlock (k : XteaKey) (y z : UInt32) :
    decBlock k (encBlock k y z).1 (encBlock k y z).2 = (y, z) := by
  unfold decBlock encBlock
  have hs := encRound_sum k xteaRounds (y, z, 0)
  have hi := iter_inv (decRound_encRound k) xteaRounds (y, z, 0)
  generalize iter (encRound k) xteaRounds (y, z, 0) = r at hs hi
  obtain ⟨y', z', s'⟩ := r
  simp only [UInt32.zero_add] at hs
  simp only
  rw [xteaSum_eq, ← hs, hi]

theorem encBlock_decBlock (k : XteaKey) (y z : UInt32) :
    encBlock k (decBlock k y z).1 (decBlock k y z).2 = (y, z) := by
  unfold decBlock encBlock
  have hi := iter_inv (encRound_decRound k) xteaRounds (y, z, xteaSum)
  have hs := encRound_sum k xteaRounds (iter (decRound k) xteaRounds (y, z, xteaSum))
  rw [hi] at hs
  generalize iter (decRound k) xteaRounds (y, z, xteaSum) = r at hs hi
  obtain ⟨y', z', s'⟩ := r
  -- `xteaSum = s' + xteaSum`, so the sum is back at 0
  have h0 : s' = 0 := by
    rw [← xteaSum_eq] at hs
    exact UInt32.add_eq_right.1 hs.symm
  subst h0
  rw [hi]

theorem whitenTail_invol (s0 s1 : UInt8) : ∀ bs, whitenTail s0 s1 (whitenTail s0 s1 bs) = bs
  | [] => rfl
  | [_] => rfl
  | a :: b :: rest => by simp [whitenTail, whitenTail_invol s0 s1 rest, UInt8.xor_assoc]

theorem whiten_invol (bs : Bytes) : whiten (whiten bs) = bs := by
  match bs with
  | [] => rfl
  | [a] => rfl
  | a :: b :: r => simp [whiten, whitenTail_invol]

theorem mapBlocks_block (f : UInt32 → UInt32 → UInt32 × UInt32) (y z : UInt32) (rest : Bytes) :
    mapBlocks f (putBe32 y ++ putBe32 z ++ rest) = putBe32 (f y z).1 ++ putBe32 (f y z).2 ++ mapBlocks f rest := by
  simp only [putBe32, List.cons_append, List.nil_append, mapBlocks, be32_putBe32]

theorem mapBlocks_inv (f g : UInt32 → UInt32 → UInt32 × UInt32)
    (hfg : ∀ y z, g (f y z).1 (f y z).2 = (y, z)) (bs : Bytes) :
    mapBlocks g (mapBlocks f bs) = bs := by
  fun_induction mapBlocks f bs with
  | case1 a b c d e f' g' h rest r ih =>
      -- one block: `g` undoes `f` on the two words, and the words are the eight bytes
      rw [mapBlocks_block, ih, hfg, putBe32_be32, putBe32_be32]; rfl
  | case2 t h =>
      -- fewer than eight bytes left: neither function touches them
      rw [mapBlocks.eq_def]
      split
      · rename_i a b c d e f' g' h' rest
        exact absurd rfl (h a b c d e f' g' h' rest)
      · rfl

theorem mapBlocks_length (f : UInt32 → UInt32 → UInt32 × UInt32) (bs : Bytes) :
    (mapBlocks f bs).length = bs.length := by
  fun_induction mapBlocks f bs with
  | case1 a b c d e f' g' h rest r ih => simp [putBe32, ih]
  | case2 t h => rfl

theorem whitenTail_length (s0 s1 : UInt8) (l : Bytes) : (whitenTail s0 s1 l).length = l.length := by
  fun_induction whitenTail s0 s1 l with
  | case1 a b rest ih => simp [ih]
  | case2 t h => rfl

theorem whiten_length (bs : Bytes) : (whiten bs).length = bs.length := by
  match bs with
  | [] => rfl
  | [a] => rfl
  | a :: b :: r => simp [whiten, whitenTail_length]

theorem mapBlocks_append8 (f : UInt32 → UInt32 → UInt32 × UInt32) {B : Bytes} (rest : Bytes) (h : B.length = 8) :
    mapBlocks f (B ++ rest) = mapBlocks f B ++ mapBlocks f rest := by
  match B, h with
  | [a, b, c, d, e, f', g, h'], _ => simp [mapBlocks]

theorem whitenTail_append (s0 s1 : UInt8) : ∀ a b : Bytes, a.length % 2 = 0 →
    whitenTail s0 s1 (a ++ b) = whitenTail s0 s1 a ++ whitenTail s0 s1 b
  | [], _, _ => rfl
  | [_], _, h => by simp at h
  | x :: y :: r, b, h => by simp [whitenTail, whitenTail_append s0 s1 r b (by simp at h; omega)]

theorem whiten_append {P : Bytes} (Q : Bytes) (h2 : 2 ≤ P.length) (he : P.length % 2 = 0) :
    whiten (P ++ Q) = whiten P ++ whitenTail (P.getD 0 0) (P.getD 1 0) Q := by
  match P, h2 with
  | s0 :: s1 :: P', _ =>
      have : P'.length % 2 = 0 := by simp at he; omega
      simp [whiten, whitenTail_append s0 s1 P' Q this]

/-! ### stream ciphers: XOR with an arbitrary keystream is an involution -/

theorem xorBytes_nil_right (a : Bytes) : xorBytes a [] = a := by cases a <;> rfl

/-- XOR stream: a mask applied to the ciphertext comes out applied to the plaintext, for every
keystream and all lengths -/
theorem xorBytes_mask (p ks m : Bytes) : xorBytes (xorBytes (xorBytes p ks) m) ks = xorBytes p m := by
  have xor3 (a k c : UInt8) : ((a ^^^ k) ^^^ c) ^^^ k = a ^^^ c := by
    rw [UInt8.xor_assoc a k c, UInt8.xor_comm k c, ← UInt8.xor_assoc, UInt8.xor_assoc (a ^^^ c) k k,
      UInt8.xor_self, UInt8.xor_zero]
  induction p generalizing ks m with
  | nil => cases ks <;> cases m <;> rfl
  | cons a as ih =>
      cases ks with
      | nil => simp [xorBytes_nil_right]
      | cons k ks =>
          cases m with
          | nil => simpa [xorBytes, xorBytes_nil_right, UInt8.xor_assoc] using ih ks []
          | cons c m => simp [xorBytes, ih, xor3]

theorem xorBytes_invol (bs ks : Bytes) : xorBytes (xorBytes bs ks) ks = bs := by
  simpa only [xorBytes_nil_right] using xorBytes_mask bs ks []

theorem xorBytes_length (bs ks : Bytes) : (xorBytes bs ks).length = bs.length := by
  induction bs generalizing ks with
  | nil => cases ks <;> rfl
  | cons a as ih =>
      cases ks with
      | nil => rfl
      | cons k ks => simp [xorBytes, ih]

theorem xorBytes_append {a m : Bytes} (b n : Bytes) (h : a.length = m.length) :
    xorBytes (a ++ b) (m ++ n) = xorBytes a m ++ xorBytes b n := by
  induction a generalizing m with
  | nil => cases m with
    | nil => rfl
    | cons _ _ => cases h
  | cons x a ih => cases m with
    | nil => cases h
    | cons y m => simp [xorBytes, @ih m (by simpa using h)]

theorem xorBytes_zero (a : Bytes) (n : Nat) : xorBytes a (List.replicate n 0) = a := by
  induction a generalizing n with
  | nil => cases n <;> rfl
  | cons x a ih => cases n with
    | zero => rfl
    | succ n => simp [List.replicate_succ, xorBytes, ih]

theorem xorBytes_cancel {a b : Bytes} (h : a.length = b.length) : xorBytes a (xorBytes a b) = b := by
  have xor_cancel_left (x y : UInt8) : x ^^^ (x ^^^ y) = y := by
    rw [← UInt8.xor_assoc, UInt8.xor_self, UInt8.zero_xor]
  induction a generalizing b with
  | nil => cases b with
    | nil => rfl
    | cons _ _ => cases h
  | cons x a ih => cases b with
    | nil => cases h
    | cons y b => simp [xorBytes, xor_cancel_left, @ih b (by simpa using h)]

theorem shuffleCrypt_invol (ks : UInt8 → UInt8 → Bytes) (bs : Bytes) :
    shuffleCrypt ks (shuffleCrypt ks bs) = bs := by
  match bs with
  | [] => rfl
  | [a] => rfl
  | a :: b :: r => simp [shuffleCrypt, xorBytes_invol]

theorem shuffleCrypt_length (ks : UInt8 → UInt8 → Bytes) (bs : Bytes) :
    (shuffleCrypt ks bs).length = bs.length := by
  match bs with
  | [] => rfl
  | [a] => rfl
  | a :: b :: r => simp [shuffleCrypt, xorBytes_length]

/-! ### the three key ciphers -/

theorem encryptRaw_length (c : CipherSpec) (k : Bytes) : (encryptRaw c k).length = k.length := by
  cases c with
  | xtea key => simp [encryptRaw, mapBlocks_length, whiten_length]
  | salsa key nonce => simp [encryptRaw, xorBytes_length]
  | shuffle key nonce => simp [encryptRaw, shuffleCrypt_length]

theorem decryptRaw_encryptRaw (c : CipherSpec) (k : Bytes) : decryptRaw c (encryptRaw c k) = k := by
  cases c with
  | xtea key =>
      simp only [encryptRaw, decryptRaw]
      rw [mapBlocks_inv (encBlock key) (decBlock key) (decBlock_encBlock key), whiten_invol]
  | salsa key nonce => simp [encryptRaw, decryptRaw, xorBytes_invol]
  | shuffle key nonce => simp [encryptRaw, decryptRaw, shuffleCrypt_invol]

theorem encryptRaw_decryptRaw (c : CipherSpec) (r : Bytes) : encryptRaw c (decryptRaw c r) = r := by
  cases c with
  | xtea key =>
      simp only [encryptRaw, decryptRaw]
      rw [whiten_invol, mapBlocks_inv (decBlock key) (encBlock key) (encBlock_decBlock key)]
  | salsa key nonce => simp [encryptRaw, decryptRaw, xorBytes_invol]
  | shuffle key nonce => simp [encryptRaw, decryptRaw, shuffleCrypt_invol]

theorem decryptRaw_length (c : CipherSpec) (k : Bytes) : (decryptRaw c k).length = k.length := by
  rw [← encryptRaw_length c (decryptRaw c k), encryptRaw_decryptRaw]

theorem encryptKey_eq (c : CipherSpec) (k : Bytes) (hk : k.length = 24) :
    encryptKey c k = .ok (b64Encode (encryptRaw c k)) := by
  have h1 : k.take 24 = k := List.take_of_length_le (Nat.le_of_eq hk)
  have h2 : (k ++ List.replicate 24 0).take 24 = k := by rw [← hk, List.take_left]
  cases c with
  | xtea key => simp [encryptKey, hk, h1]
  | salsa key nonce | shuffle key nonce => simp only [encryptKey, h2]

theorem decodeKey_b64 (raw : Bytes) : decodeKey (b64Encode raw) = .ok raw := decodeKeyAux_encode raw 0

theorem decryptKey_b64 (c : CipherSpec) {raw : Bytes} (h : raw.length = 24) :
    decryptKey c (b64Encode raw) = .ok (decryptRaw c raw) := by
  simp [decryptKey, b64Encode_length, h, decodeKey_b64]

theorem decryptKey_issued (c : CipherSpec) {k : Bytes} (hk : k.length = 24) :
    decryptKey c (b64Encode (encryptRaw c k)) = .ok k := by
  rw [decryptKey_b64 c (by rw [encryptRaw_length, hk]), decryptRaw_encryptRaw]

theorem decryptKey_ok {c : CipherSpec} {s k : Bytes} (h : decryptKey c s = .ok k) :
    s.length = 32 ∧ ∃ raw, decodeKey s = .ok raw ∧ k = decryptRaw c raw := by
  unfold decryptKey at h
  split at h
  · cases h
  · rename_i hl
    split at h <;> cases h
    exact ⟨by simpa using hl, _, ‹_›, rfl⟩

theorem decryptKey_length {c : CipherSpec} {s k : Bytes} (h : decryptKey c s = .ok k) : k.length = 24 := by
  obtain ⟨hl, raw, hd, rfl⟩ := decryptKey_ok h
  -- `s` is the encoding of `raw`, and 32 characters encode 24 bytes
  have := b64Encode_length raw
  rw [b64Encode_decodeKeyAux s 0 raw hd (by omega), hl] at this
  rw [decryptRaw_length]; omega

theorem decryptKey_nopanic (c : CipherSpec) (s : Bytes) : (decryptKey c s).isPanic = false := by
  unfold decryptKey
  split
  · rfl
  · split
    · rfl
    · rfl
    · exact absurd ‹_› (decodeKeyAux_nopanic s 0 _)

end Emitter.Cipher
