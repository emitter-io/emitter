/-
  C05 — lemma library, part 4: on flag-free schedules a broker's own entries tell the truth about its clients, and
  every entry anywhere names a broker of the cluster (nobody but the owner ever stamps a key of the owner, so
  everything in flight is dominated by the owner's state). The invariant `OInv` is the second instance of
  `Cluster.Holds.step` (`oinv_step`): what is proved here is what `Notify`, a memberlist change and a merge do to it.
-/
import Emitter.Lemmas.Cluster

namespace Emitter.Cluster
open Emitter Emitter.Lww

/-- well-formed client events: 64-bit connection ids, ssids with at least the contract word -/
def Ev.ok : Ev → Prop
  | .sub _ c σ _ => c < 18446744073709551616 ∧ σ ≠ []
  | .unsub _ c σ _ => c < 18446744073709551616 ∧ σ ≠ []
  | .close _ c _ => c < 18446744073709551616
  | _ => True

/-- `Lww.tle` under the name the invariants of this file use; it unfolds to `tle`, so the `tle_*` / `tmax_*` lemmas of
Lemmas/Lww.lean close `Le2` goals as they are -/
def Le2 (a b : Int × Int) : Prop := a.1 ≤ b.1 ∧ a.2 ≤ b.2

theorem le2_of_eq_zero {a b : Int × Int} (h : a = (0, 0)) (hb : Le2 (0, 0) b) : Le2 a b := by
  rw [h]; exact hb

theorem nonneg_of_tget (m : Map) (h : ∀ k, Le2 (0, 0) (tget m k)) : NonNeg m := h

def bnames (bs : List Broker) : List PeerName := bs.map Broker.self

/-- a key stamped by a broker of the cluster for a well-formed (connection, ssid) -/
def GoodKey (ns : List PeerName) (k : Bytes) : Prop :=
  ∃ p, p ∈ ns ∧ ∃ cn σ, cn < 18446744073709551616 ∧ σ ≠ [] ∧ k = encKey p cn σ

/-- a map living anywhere in the cluster (a state, a bucket, a message in flight): distinct keys,
non-negative times, every entry names a broker, and on the keys of a broker it is dominated by
that broker's own state -/
structure MapOK (bs : List Broker) (H : Map) : Prop where
  nodup : NoDup H
  nonneg : NonNeg H
  keys : ∀ k, tget H k ≠ (0, 0) → GoodKey (bnames bs) k
  dom : ∀ x ∈ bs, ∀ cn σ, Le2 (tget H (encKey x.self cn σ)) (tget x.state (encKey x.self cn σ))

theorem mapOK_nil {bs : List Broker} (hnn : ∀ x ∈ bs, NonNeg x.state) : MapOK bs [] :=
  ⟨nodup_nil, nonneg_nil, fun k h => absurd (tget_nil k) h, fun x hx _ _ => hnn x hx _⟩

theorem mapOK_merge (bs : List Broker) (a b : Map) (ha : MapOK bs a) (hb : MapOK bs b) :
    MapOK bs (merge a b).1 := by
  refine ⟨nodup_merge a b ha.nodup, nonneg_merge a b ha.nonneg, fun k h => ?_, fun x hx cn σ => ?_⟩
  · rw [tget_merge a b ha.nonneg hb.nodup] at h
    exact (tmax_ne_zero h).elim (ha.keys k) (hb.keys k)
  · rw [tget_merge a b ha.nonneg hb.nodup]
    exact tmax_le (ha.dom x hx cn σ) (hb.dom x hx cn σ)

/-- `MapOK` passes to every map below (with distinct keys and non-negative times) -/
theorem MapOK.of_below {bs : List Broker} {H H' : Map} (h : MapOK bs H') (hnd : NoDup H) (hnn : NonNeg H)
    (hle : ∀ k, Le2 (tget H k) (tget H' k)) : MapOK bs H :=
  ⟨hnd, hnn, fun k hk => h.keys k fun h0 => hk (tle_antisymm (h0 ▸ hle k) (hnn.zero_le k)),
    fun x hx cn σ => tle_trans (hle _) (h.dom x hx cn σ)⟩

/-- the delta of a merge holds times of the payload or nothing -/
theorem mapOK_delta {bs : List Broker} {s r : Map} (hs : NonNeg s) (hr : MapOK bs r) : MapOK bs (merge s r).2 :=
  hr.of_below (delta_nodup s r hr.nodup) (delta_nonneg s r hs hr.nodup) fun k => by
    rw [tget_delta s r hr.nodup]; exact tnew_le (hr.nonneg.zero_le k) (tle_refl _)

/-- `Link.All (MapOK bs)` with the fields written out (`linkOK_iff`) -/
structure LinkOK (bs : List Broker) (l : Link) : Prop where
  gossip : ∀ m, l.gossip = some (.data m) → MapOK bs m
  bcasts : ∀ e ∈ l.bcasts, MapOK bs e.2
  wire : ∀ w ∈ l.wire, MapOK bs w.payload

structure OInv (c : Cluster) : Prop where
  names : (bnames c.brokers).Nodup
  range : ∀ x ∈ c.brokers, x.self < 18446744073709551616
  locals : ∀ x ∈ c.brokers, ∀ cn σ, (cn, σ) ∈ x.locals → cn < 18446744073709551616 ∧ σ ≠ []
  states : ∀ x ∈ c.brokers, MapOK c.brokers x.state
  links : ∀ e ∈ c.links, LinkOK c.brokers e.2
  truth : ∀ x ∈ c.brokers, ∀ cn σ, cn < 18446744073709551616 → σ ≠ [] →
    (has x.state (encKey x.self cn σ) = true ↔ (cn, σ) ∈ x.locals)

theorem OInv.nonneg {c : Cluster} (h : OInv c) : ∀ x ∈ c.brokers, NonNeg x.state :=
  fun x hx => (h.states x hx).nonneg

theorem linkOK_iff (bs : List Broker) (l : Link) : LinkOK bs l ↔ l.All (MapOK bs) :=
  ⟨fun h => ⟨h.gossip, h.bcasts, h.wire⟩, fun h => ⟨h.gossip, h.bcasts, h.wire⟩⟩

/-- `OInv` in the form the transport lemmas take: one invariant about the brokers (that of the cluster with the same
brokers and no link) and one about the maps queued or in flight (`oinv_iff`) -/
abbrev OHolds (c : Cluster) : Prop := c.Holds (fun bs => OInv { brokers := bs }) MapOK

theorem oinv_iff (c : Cluster) : OInv c ↔ OHolds c := by
  constructor
  · intro h
    exact ⟨⟨h.names, h.range, h.locals, h.states, fun _ he => (nomatch he), h.truth⟩,
      fun e he => (linkOK_iff _ _).1 (h.links e he)⟩
  · intro h
    have hb := h.brokers
    exact ⟨hb.names, hb.range, hb.locals, hb.states, fun e he => (linkOK_iff _ _).2 (h.links e he), hb.truth⟩

theorem carries_mapOK : Carries (fun bs => OInv { brokers := bs }) MapOK :=
  ⟨mapOK_merge, fun _ h => h.states, fun _ h => mapOK_nil h.nonneg⟩

theorem bnames_setBroker (c : Cluster) (b' : Broker) : bnames (c.setBroker b').brokers = bnames c.brokers :=
  map_replaceKey Broker.self b' c.brokers

theorem eq_of_names_nodup (bs : List Broker) (h : (bnames bs).Nodup) (x y : Broker) (hx : x ∈ bs) (hy : y ∈ bs)
    (hs : x.self = y.self) : x = y :=
  eq_of_nodup_map Broker.self (l := bs) h hx hy hs

theorem mem_setBroker {c : Cluster} {b' x' : Broker} (h : x' ∈ (c.setBroker b').brokers) :
    b' = x' ∨ (x' ∈ c.brokers ∧ x'.self ≠ b'.self) :=
  ((mem_replaceKey Broker.self).mp h).imp (fun h => h.1.symm) id

theorem mapOK_setBroker {c : Cluster} {b b' : Broker} (hb : b ∈ c.brokers) (hself : b'.self = b.self)
    {s' : Map} (hs : b'.state = s') (hgrow : ∀ k, Le2 (tget b.state k) (tget s' k)) (H : Map) (h : MapOK c.brokers H) :
    MapOK (c.setBroker b').brokers H := by
  subst hs
  refine ⟨h.nodup, h.nonneg, ?_, ?_⟩
  · rw [bnames_setBroker]; exact h.keys
  · intro x' hx' cn σ
    rcases mem_setBroker hx' with rfl | ⟨hx, _⟩
    · rw [hself]; exact tle_trans (h.dom b hb cn σ) (hgrow _)
    · exact h.dom x' hx cn σ

/-- broker `b` is replaced by `b'`: same name, a state that only grew, that is `MapOK` among the brokers as they are
afterwards (`mapOK_setBroker` when it is so among the old ones), and truthful on its own keys -/
theorem oinv_setBroker {c : Cluster} {b b' : Broker} (hc : OHolds c)
    (hb : b ∈ c.brokers)
    (hself : b'.self = b.self) {s' : Map} (hs : b'.state = s')
    (hgrow : ∀ k, Le2 (tget b.state k) (tget s' k))
    (hstate : MapOK (c.setBroker b').brokers s')
    (hloc : ∀ cn σ, (cn, σ) ∈ b'.locals → cn < 18446744073709551616 ∧ σ ≠ [])
    (htruth : ∀ cn σ, cn < 18446744073709551616 → σ ≠ [] →
      (has s' (encKey b.self cn σ) = true ↔ (cn, σ) ∈ b'.locals)) :
    OHolds (c.setBroker b') := by
  have mono := mapOK_setBroker hb hself hs hgrow
  subst hs
  have ho := hc.brokers
  refine hc.setBroker ⟨?_, ?_, ?_, ?_, fun _ h => (nomatch h), ?_⟩ mono
  · show (bnames (c.setBroker b').brokers).Nodup
    rw [bnames_setBroker]; exact ho.names
  -- field by field: for the replaced broker from the hypotheses, for every other broker from `ho`
  all_goals
    intro x' hx'
    rcases mem_setBroker hx' with rfl | ⟨hx, _⟩
  · rw [hself]; exact ho.range b hb
  · exact ho.range x' hx
  · exact hloc
  · exact ho.locals x' hx
  · exact hstate
  · exact mono _ (ho.states x' hx)
  · rw [hself]; exact htruth
  · exact ho.truth x' hx

theorem oinv_setBroker_same {c : Cluster} {b b' : Broker} {fl : List Flag} (hc : OHolds c)
    (hb : b ∈ c.brokers) (hk : Keeps b b' fl) : OHolds (c.setBroker b') :=
  oinv_setBroker hc hb hk.self hk.state (hgrow := fun _ => tle_refl _)
    (hstate := mapOK_setBroker hb hk.self hk.state (fun _ => tle_refl _) _ (hc.brokers.states b hb))
    (hloc := hk.locals ▸ hc.brokers.locals b hb) (htruth := hk.locals ▸ hc.brokers.truth b hb)

/-- what a flag-free local subscribe / unsubscribe of (cn, σ) at `b` does -/
structure NStep (b : Broker) (cn : ConnId) (σ : Ssid) (r : NotifyRes) : Prop where
  self : r.broker.self = b.self
  nodup : NoDup r.broker.state
  nonneg : NonNeg r.broker.state
  grow : ∀ k, Le2 (tget b.state k) (tget r.broker.state k)
  frame : ∀ k, k ≠ encKey b.self cn σ → tget r.broker.state k = tget b.state k
  pdom : Le2 (tget r.payload (encKey b.self cn σ)) (tget r.broker.state (encKey b.self cn σ))
  pframe : ∀ k, k ≠ encKey b.self cn σ → tget r.payload k = (0, 0)
  pnodup : NoDup r.payload
  pnonneg : NonNeg r.payload
  locals : ∀ cn' σ', (cn', σ') ∈ r.broker.locals → cn' < 18446744073709551616 ∧ σ' ≠ []
  truth : ∀ cn' σ', cn' < 18446744073709551616 → σ' ≠ [] →
    (has r.broker.state (encKey b.self cn' σ') = true ↔ (cn', σ') ∈ r.broker.locals)

theorem oinv_applyNotify {c : Cluster} (a : PeerName) {b : Broker} {cn : ConnId} {σ : Ssid} {r : NotifyRes}
    (hc : OHolds c) (hb : b ∈ c.brokers)
    (hcn : cn < 18446744073709551616) (hσ : σ ≠ [])
    (hr : NStep b cn σ r) : OHolds (c.applyNotify a r) := by
  have ho := hc.brokers
  -- the new state differs from the old at the stamped key only (`frame`)
  have hstate : MapOK (c.setBroker r.broker).brokers r.broker.state := by
    refine ⟨hr.nodup, hr.nonneg, fun k h => ?_, fun x hx cn' σ' => ?_⟩
    · -- keys: the stamped key is good, every other time was there before
      rw [bnames_setBroker]
      by_cases hk : k = encKey b.self cn σ
      · rw [hk]; exact ⟨b.self, List.mem_map_of_mem hb, cn, σ, hcn, hσ, rfl⟩
      · rw [hr.frame k hk] at h
        exact (ho.states b hb).keys k h
    · -- dom: a key of another broker is not the stamped key
      rcases mem_setBroker hx with rfl | ⟨hx, hne⟩
      · exact tle_refl _
      · have hk : encKey x.self cn' σ' ≠ encKey b.self cn σ :=
          fun h => hne ((encKey_peer_inj (ho.range x hx) (ho.range b hb) h).trans hr.self.symm)
        rw [hr.frame _ hk]
        exact (ho.states b hb).dom x hx cn' σ'
  have h1 := oinv_setBroker hc hb hr.self rfl
    (hgrow := hr.grow) (hstate := hstate) (hloc := hr.locals) (htruth := hr.truth)
  -- the payload is below the new state: at the stamped key by `pdom`, everywhere else it is zero
  refine hc.applyNotify carries_mapOK a h1.brokers (mapOK_setBroker hb hr.self rfl hr.grow)
    (hstate.of_below hr.pnodup hr.pnonneg fun k => ?_)
  by_cases hk : k = encKey b.self cn σ
  · rw [hk]; exact hr.pdom
  · rw [hr.pframe k hk]; exact hr.nonneg.zero_le k

theorem nstep_noop {c : Cluster} (hc : OInv c) {b : Broker} (hb : b ∈ c.brokers) (cn : ConnId) (σ : Ssid) :
    NStep b cn σ { broker := b, payload := [], flags := [] } :=
  have hs := hc.states b hb
  ⟨rfl, hs.nodup, hs.nonneg, fun _ => tle_refl _, fun _ _ => rfl, hs.nonneg _, fun _ _ => tget_nil _, nodup_nil,
    nonneg_nil, hc.locals b hb, hc.truth b hb⟩

/-- the one shape of a `Notify` that changes anything: the time `t` is merged into the broker's own key for (cn, σ)
and nothing else moves, the payload is that one stamp, and the list of local subscriptions changes at (cn, σ) only,
in step with the activity of the key -/
theorem nstep_stamp {c : Cluster} (hc : OInv c) {b : Broker} (hb : b ∈ c.brokers) {cn : ConnId} {σ : Ssid}
    (hcn : cn < 18446744073709551616) (hσ : σ ≠ [])
    (s' : Map) (t : Int × Int) (pl : Bytes) (L : List (ConnId × Ssid)) (fl : List Flag) (hnd : NoDup s')
    (ht : tle (0, 0) t)
    (hs : ∀ k, tget s' k = if k = encKey b.self cn σ then tmax (tget b.state (encKey b.self cn σ)) t else tget b.state k)
    (hL : ∀ e, e ≠ (cn, σ) → (e ∈ L ↔ e ∈ b.locals)) (hvL : has s' (encKey b.self cn σ) = true ↔ (cn, σ) ∈ L) :
    NStep b cn σ { broker := { b with locals := L, state := s' },
                   payload := [(encKey b.self cn σ, ⟨t.1, t.2, pl⟩)], flags := fl } := by
  have grow : ∀ k, tle (tget b.state k) (tget s' k) := by
    intro k; rw [hs]; split
    · rename_i hk; rw [hk]; exact tle_tmax_left _ _
    · exact tle_refl _
  refine ⟨rfl, hnd, (hc.nonneg b hb).of_le grow, grow, fun k hk => ?_, ?_, fun k hk => ?_, nodup_singleton _ _,
    nonneg_singleton _ ht.1 ht.2, fun cn' σ' h => ?_, fun cn' σ' hcn' hσ' => ?_⟩
  · show tget s' k = _
    rw [hs, if_neg hk]
  · show Le2 (tget [_] _) (tget s' _)
    rw [tget_cons, if_pos rfl, hs, if_pos rfl]; exact tle_tmax_right _ _
  · rw [tget_cons, if_neg hk, tget_nil]
  · by_cases he : (cn', σ') = (cn, σ)
    · cases he; exact ⟨hcn, hσ⟩
    · exact hc.locals b hb cn' σ' ((hL _ he).1 h)
  · show has s' _ = true ↔ (cn', σ') ∈ L
    by_cases hk : encKey b.self cn' σ' = encKey b.self cn σ
    · have := encKey_inj hcn' hcn hσ' hσ hk
      rw [this.1, this.2]; exact hvL
    · have hne : (cn', σ') ≠ (cn, σ) := by
        intro h; cases h; exact hk rfl
      rw [has_congr s' b.state _ (by rw [hs, if_neg hk]), hc.truth b hb cn' σ' hcn' hσ', hL _ hne]

theorem localSub_nstep {c : Cluster} (hc : OInv c) {b : Broker} (hb : b ∈ c.brokers) {cn : ConnId} {σ : Ssid}
    {now : Int} (hcn : cn < 18446744073709551616) (hσ : σ ≠ [])
    (hf : (localSub b cn σ now).flags = []) : NStep b cn σ (localSub b cn σ now) := by
  unfold localSub at hf ⊢
  split
  · exact nstep_noop hc hb cn σ
  · rename_i hcont
    rw [if_neg hcont] at hf
    simp only at hf ⊢
    have hnn := hc.nonneg b hb
    have hold : has b.state (encKey b.self cn σ) = false := by
      rw [← Bool.not_eq_true]
      exact fun h => hcont (List.contains_iff_mem.2 ((hc.truth b hb cn σ hcn hσ).1 h))
    -- no flag: the entry is active afterwards, so the add was written, at a reading that is not negative
    have hnew : has (add b.state (encKey b.self cn σ) now []) (encKey b.self cn σ) = true := by
      rw [← Bool.not_eq_false]; intro h; simp [h] at hf
    have h0 : 0 ≤ now := by
      apply Classical.byContradiction
      intro hneg
      rw [add_of_le _ (by have := (hnn (encKey b.self cn σ)).1; omega), hold] at hnew
      cases hnew
    exact nstep_stamp hc hb hcn hσ (t := (now, 0)) (pl := []) (fl := _) (hnd := nodup_add _ _ _ (hc.states b hb).nodup)
      (ht := ⟨h0, Int.le_refl 0⟩) (hs := tget_add b.state _ now [] hnn)
      (hL := fun e he => by rw [List.mem_cons]; exact ⟨fun h => h.resolve_left he, Or.inr⟩)
      (hvL := ⟨fun _ => List.mem_cons_self, fun _ => hnew⟩)

theorem localUnsub_nstep {c : Cluster} (hc : OInv c) {b : Broker} (hb : b ∈ c.brokers) {cn : ConnId} {σ : Ssid}
    {now : Int} (hcn : cn < 18446744073709551616) (hσ : σ ≠ [])
    (hf : (localUnsub b cn σ now).flags = []) : NStep b cn σ (localUnsub b cn σ now) := by
  unfold localUnsub at hf ⊢
  split
  · exact nstep_noop hc hb cn σ
  · rename_i hcont
    rw [if_neg hcont] at hf
    simp only at hf ⊢
    have hnn := hc.nonneg b hb
    have hold : has b.state (encKey b.self cn σ) = true :=
      (hc.truth b hb cn σ hcn hσ).2 (List.contains_iff_mem.1 (by simpa using hcont))
    -- no flag: the entry is inactive afterwards, so the remove was written, at a reading that is not negative
    have hnew : has (del b.state (encKey b.self cn σ) now) (encKey b.self cn σ) = false := by
      rw [← Bool.not_eq_true]; intro h; simp [h] at hf
    have h0 : 0 ≤ now := by
      apply Classical.byContradiction
      intro hneg
      rw [del_eq, if_neg (by have := (hnn (encKey b.self cn σ)).2; omega), hold] at hnew
      cases hnew
    exact nstep_stamp hc hb hcn hσ (t := (0, now)) (pl := []) (fl := _) (hnd := nodup_del _ _ (hc.states b hb).nodup)
      (ht := ⟨Int.le_refl 0, h0⟩) (hs := tget_del b.state _ now hnn)
      (hL := fun e he => by rw [List.mem_filter]; exact ⟨fun h => h.1, fun h => ⟨h, by simpa using he⟩⟩)
      (hvL := ⟨fun h => (by rw [hnew] at h; cases h), fun h => (by simp [List.mem_filter] at h)⟩)

theorem touch_keeps (b : Broker) (p : PeerName) : Keeps b (touch b p) [] := by
  unfold touch
  split
  · exact .refl b
  · split <;> exact ⟨rfl, rfl, rfl, fun _ h => nomatch h⟩

theorem expire_keeps (b : Broker) (p : PeerName) : Keeps b (expire b p) [] := by
  unfold expire
  split <;> exact ⟨rfl, rfl, rfl, fun _ h => nomatch h⟩

/-- a merge at a broker: the state grows by times that are dominated by their owners, so every own key keeps its
times, and the delta may be relayed -/
theorem oinv_merge_at {c : Cluster} (hc : OHolds c) {br : Broker}
    (hbr : br ∈ c.brokers) {m : Map} (hm : MapOK c.brokers m) (o : WalkOrder) :
    OHolds (c.setBroker (mergeStep o br m).broker) ∧
    MapOK (c.setBroker (mergeStep o br m).broker).brokers (merge br.state m).2 := by
  have hk : Keeps { br with state := (merge br.state m).1 } (mergeStep o br m).broker (mergeStep o br m).flags :=
    mergeOrd_keeps _ br m
  have hst : (mergeStep o br m).broker.state = (merge br.state m).1 := hk.state
  have ho := hc.brokers
  have hs := ho.states br hbr
  have hmm : MapOK c.brokers (merge br.state m).1 := mapOK_merge c.brokers _ _ hs hm
  have hgrow : ∀ k, Le2 (tget br.state k) (tget (merge br.state m).1 k) := merge_grows hs.nonneg hm.nodup
  have mono := mapOK_setBroker hbr hk.self hst hgrow
  constructor
  · apply oinv_setBroker hc hbr hk.self hst (hgrow := hgrow) (hstate := mono _ hmm) (hloc := ?_) (htruth := ?_)
    · rw [hk.locals]; exact ho.locals br hbr
    · -- the payload is dominated by `br` on `br`'s own keys, so the merge leaves their times as they are
      intro cn σ hcn hσ
      rw [hk.locals, ← ho.truth br hbr cn σ hcn hσ]
      rw [has_congr (merge br.state m).1 br.state _ (by rw [tget_merge _ _ hs.nonneg hm.nodup, tmax_eq_left (hm.dom br hbr cn σ)])]
  · exact mono _ (mapOK_delta hs.nonneg hm)

/-- an unsubscribe keeps the own-truth invariant whatever the connection id and the ssid are: one that is not held
changes nothing, one that is held is well formed by the invariant -/
theorem oinv_localUnsub {c : Cluster} (a : PeerName) {b : Broker} {cn : ConnId} {σ : Ssid} {now : Int} (hc : OHolds c)
    (hb : b ∈ c.brokers) (hf : (localUnsub b cn σ now).flags = []) :
    OHolds (c.applyNotify a (localUnsub b cn σ now)) := by
  by_cases hcont : (cn, σ) ∈ b.locals
  · obtain ⟨hcn, hσ⟩ := hc.brokers.locals b hb cn σ hcont
    exact oinv_applyNotify a hc hb hcn hσ (localUnsub_nstep ((oinv_iff c).2 hc) hb hcn hσ hf)
  · have e : localUnsub b cn σ now = { broker := b, payload := [], flags := [] } := by
      unfold localUnsub; rw [if_pos (by simpa using hcont)]
    rw [e]
    show OHolds (c.setBroker b)  -- nothing to broadcast
    exact oinv_setBroker_same hc hb (.refl b)

theorem oinv_step (c : Cluster) (e : Ev) (hc : OInv c) (hok : e.ok) (hf : ∀ f ∈ (c.step e).2.flags, False) :
    OInv (c.step e).1 := by
  have h := (oinv_iff c).1 hc
  rw [oinv_iff]
  refine h.step carries_mapOK e hf
    (hnotify := fun c0 a b r h0 hb hr hfl => ?_) (hmember := fun b r hb hr hfl => ?_)
    (hmerge := fun c0 br o m h0 hbr hm _ => oinv_merge_at h0 hbr hm o)
  · have hfl := List.eq_nil_iff_forall_not_mem.2 hfl
    cases hr with
    | sub a cn σ now b =>
      exact oinv_applyNotify a h0 hb hok.1 hok.2 (localSub_nstep ((oinv_iff c0).2 h0) hb hok.1 hok.2 hfl)
    | unsub a cn σ now b | close a cn now σ b => exact oinv_localUnsub a h0 hb hfl
  · have hfl := List.eq_nil_iff_forall_not_mem.2 hfl
    cases hr with
    | touch a p b => exact oinv_setBroker_same h hb (touch_keeps b p)
    | expire a p b => exact oinv_setBroker_same h hb (expire_keeps b p)
    | offline a p now b =>
      cases hm : mget b.members p with
      | none => rw [offline_none b p now hm]; exact oinv_setBroker_same h hb (.refl b)
      | some r =>
        rw [(offline_some hm hfl).2]
        exact oinv_setBroker_same (fl := []) h hb ⟨rfl, rfl, rfl, fun _ h => nomatch h⟩

theorem oinv_run {c : Cluster} (evs : List Ev) (hc : OInv c) (hok : ∀ e ∈ evs, e.ok) (hf : (c.run evs).2 = []) :
    OInv (c.run evs).1 :=
  run_inv oinv_step evs c hc hok (by rw [hf]; exact fun _ h => nomatch h)

theorem oinv_init (mode : Trie.Mode) (n : Nat) (hn : n < 18446744073709551615) : OInv (Cluster.init mode n) := by
  have hnn : ∀ x ∈ (Cluster.init mode n).brokers, NonNeg x.state := by
    intro x hx
    obtain ⟨i, _, rfl⟩ := mem_init_brokers hx
    exact nonneg_nil
  refine (oinv_iff _).2 ⟨⟨?_, ?_, ?_, ?_, fun _ h => (nomatch h), ?_⟩, init_links _ mode n⟩
  · show (bnames (Cluster.init mode n).brokers).Nodup
    unfold bnames Cluster.init
    simp only [List.map_map]
    unfold List.Nodup
    rw [List.pairwise_map]
    apply List.Pairwise.imp _ List.nodup_range
    intro i j hij h
    exact hij (Nat.add_right_cancel h)
  all_goals intro x hx; obtain ⟨i, hi, rfl⟩ := mem_init_brokers (mode := mode) hx
  · show i + 1 < 18446744073709551616
    omega
  · intro cn σ h
    cases h
  · exact mapOK_nil hnn
  · intro cn σ _ _
    show has [] _ = true ↔ (cn, σ) ∈ []
    rw [has_nil]
    simp

theorem oinv_active {c : Cluster} (hc : OInv c) {a : Broker} (ha : a ∈ c.brokers) {p : PeerName} {σ : Ssid}
    (h : 0 < cnt a.state p σ) :
    ∃ y ∈ c.brokers, y.self = p ∧ ∃ cn, cn < 18446744073709551616 ∧ σ ≠ [] ∧ has a.state (encKey p cn σ) = true := by
  rw [cnt_pos_iff_has a.state (hc.states a ha).nodup] at h
  obtain ⟨k, hk, hki⟩ := h
  obtain ⟨q, hq, cn, σ', hcn, hσ', rfl⟩ := (hc.states a ha).keys k (tget_ne_zero_of_has hk)
  obtain ⟨y, hy, rfl⟩ := List.mem_map.1 hq
  obtain ⟨_, h1, h2⟩ := (keyIs_encKey_iff y.self cn σ' p σ).1 hki
  rw [Nat.mod_eq_of_lt (hc.range y hy)] at h1
  subst h1; subst h2
  exact ⟨y, hy, rfl, cn, hcn, hσ', hk⟩

theorem oinv_ownTruth {c : Cluster} (hc : OInv c) (x : Broker) (hx : x ∈ c.brokers) : OwnTruth x := by
  intro σ
  constructor
  · intro h
    obtain ⟨_, _, _, cn, hcn, hσ, hk⟩ := oinv_active hc hx h
    exact ⟨cn, (hc.truth x hx cn σ hcn hσ).1 hk⟩
  · rintro ⟨cn, h⟩
    obtain ⟨hcn, hσ⟩ := hc.locals x hx cn σ h
    rw [cnt_pos_iff_has x.state (hc.states x hx).nodup]
    exact ⟨encKey x.self cn σ, (hc.truth x hx cn σ hcn hσ).2 h,
      (keyIs_encKey_iff ..).2 ⟨hσ, (Nat.mod_eq_of_lt (hc.range x hx)).symm, rfl⟩⟩

/-- On every schedule of well-formed events that raises NO flag (in particular the clock readings
of two operations on one (connection, channel) advance, and no peer holding entries is
garbage-collected): every broker's own entries are active exactly for its live local
subscriptions, and every active entry anywhere belongs to a broker of the cluster. -/
theorem own_truth_run (mode : Trie.Mode) (n : Nat) (hn : n < 18446744073709551615) (evs : List Ev)
    (hok : ∀ e ∈ evs, e.ok) (hf : ((Cluster.init mode n).run evs).2 = []) :
    (∀ x ∈ ((Cluster.init mode n).run evs).1.brokers, OwnTruth x) ∧
    (∀ a ∈ ((Cluster.init mode n).run evs).1.brokers, ∀ p σ, 0 < cnt a.state p σ →
      ∃ y ∈ ((Cluster.init mode n).run evs).1.brokers, y.self = p) := by
  have hO : OInv ((Cluster.init mode n).run evs).1 := oinv_run evs (oinv_init mode n hn) hok hf
  constructor
  · exact oinv_ownTruth hO
  · intro a ha p σ h
    obtain ⟨y, hy, hs, _⟩ := oinv_active hO ha h
    exact ⟨y, hy, hs⟩

end Emitter.Cluster
