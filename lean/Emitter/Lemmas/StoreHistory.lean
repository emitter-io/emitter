/-
  The history-level statement of C07: the broker model's message store refines the log of
  `Emitter/Spec/Retained.lean` — for every history of accepts, requests (connect with or without a
  will / publish with retain, ttl or neither / link / subscribe / … / disconnect) and ban-list
  changes, by any number of clients, in any order, under every authorizer — and what an accepted
  SUBSCRIBE is sent before its SUBACK is what `Spec.replay` says.
-/
import Emitter.Lemmas.BrokerHistory
import Emitter.Spec.Retained
namespace Emitter.Broker
open Emitter Emitter.Trie Emitter.Security

/-- a stored message of the model as a record of the log: the first word of the storage ssid is
the contract, the rest the channel; `k` is its position in the store -/
def absRec (k : Nat) (m : Stored) : Spec.Rec :=
  ⟨m.ssid.headD 0, m.ssid.drop 1, m.channel, m.payload, m.ttl, k⟩

/-- `absRec` along the store, numbering from `k` -/
def absFrom : Nat → List Stored → List Spec.Rec
  | _, [] => []
  | k, m :: ms => absRec k m :: absFrom (k + 1) ms

/-- the model's store as a log: same messages, same order, numbered from 0 -/
def absLog (store : List Stored) : List Spec.Rec := absFrom 0 store

def Spec.Rec.toStored (r : Spec.Rec) : Stored := ⟨r.contract :: r.ssid, r.channel, r.payload, r.ttl⟩

/-- what the specification knows of a connection: open or not, the will announced by the last
CONNECT (if it had the will flag), the link shortcuts -/
def absInfo (c : Conn) : Spec.Client :=
  { open_ := c.alive
    will := if c.hasConnect && c.willFlag then some ⟨c.willRetain, c.willTopic, c.willMessage⟩ else none
    links := c.links }

def absClient (c : Conn) : String × Spec.Client := (c.name, absInfo c)

/-- **the abstraction function**: ban list, configured retention, the connections in order
(name, open, will, links), and the store as a log -/
def absStore (b : B) : Spec.StoreState :=
  { banned := b.banned, retention := b.retain, clients := b.conns.map absClient, log := absLog b.store }

/-- the store zipped with its indices; what follows about `absLog` are facts about `List.zipIdx` -/
theorem absFrom_eq : ∀ (k : Nat) (s : List Stored), absFrom k s = (s.zipIdx k).map fun p => absRec p.2 p.1
  | _, [] => rfl
  | k, m :: ms => by rw [absFrom, absFrom_eq (k + 1) ms]; rfl

theorem absLog_eq (s : List Stored) : absLog s = s.zipIdx.map fun p => absRec p.2 p.1 := absFrom_eq 0 s

theorem absLog_length (s : List Stored) : (absLog s).length = s.length := by
  rw [absLog_eq, List.length_map, List.length_zipIdx]

theorem absLog_snoc (s : List Stored) (m : Stored) : absLog (s ++ [m]) = absLog s ++ [absRec s.length m] := by
  rw [absLog_eq, absLog_eq, List.zipIdx_append, List.map_append, Nat.zero_add]
  rfl

theorem absLog_seq (s : List Stored) : (absLog s).map (·.seq) = List.range s.length := by
  rw [absLog_eq, List.map_map, List.range_eq_range', ← List.zipIdx_map_snd 0 s]
  rfl -- `(absRec i m).seq` is `i`

/-- the stores in which every message is filed under a contract (all the broker ever writes) -/
def StoreWF (store : List Stored) : Prop := ∀ m ∈ store, m.ssid ≠ []

theorem toStored_absRec (k : Nat) (m : Stored) (h : m.ssid ≠ []) : (absRec k m).toStored = m := by
  obtain ⟨ssid, ch, p, t⟩ := m
  cases ssid with
  | nil => exact absurd rfl h
  | cons a rest => rfl

theorem toStored_absLog (s : List Stored) (h : StoreWF s) : (absLog s).map Spec.Rec.toStored = s := by
  rw [absLog_eq, List.map_map]
  exact (List.map_congr_left fun p hp => toStored_absRec p.2 p.1 (h p.1 (List.fst_mem_of_mem_zipIdx hp))).trans
    (List.zipIdx_map_fst 0 s)

theorem client?_abs (b : B) (name : String) : (absStore b).client? name = (b.conn? name).map absInfo := by
  unfold Spec.StoreState.client? B.conn? absStore
  simp only [List.find?_map, Option.map_map]
  rfl

theorem absStore_setConn (b : B) (c' : Conn) :
    absStore (b.setConn c') = (absStore b).setClient c'.name (absInfo c') := by
  have hmap : (b.setConn c').conns.map absClient =
      (b.conns.map absClient).map (fun e => if e.1 == c'.name then (c'.name, absInfo c') else e) := by
    simp only [B.setConn, List.map_map]
    refine List.map_congr_left fun x _ => ?_
    by_cases hx : x.name = c'.name <;> simp [hx, absClient]
  unfold absStore Spec.StoreState.setClient
  simp only [hmap]
  rfl

theorem setConn_abs_same {b : B} {c c' : Conn} (hnd : (b.conns.map (·.name)).Nodup)
    (hc : b.conn? c.name = some c) (hn : c'.name = c.name) (hi : absInfo c' = absInfo c) :
    (b.setConn c').conns.map absClient = b.conns.map absClient :=
  setConn_map_same absClient hnd (conn?_mem hc) hn (by unfold absClient; rw [hi, hn])

theorem requestedTtl_eq (R : Nat) (retain : Bool) (ch : Channel) :
    Spec.requestedTtl R retain ch =
      if ttlOf retain ch > 0 then
        some (if ttlOf retain ch == Generated.msgRetainedTTL then R else ttlOf retain ch)
      else none := by
  unfold Spec.requestedTtl ttlOf
  cases ht : ch.ttl with
  | none => cases retain <;> simp [Generated.msgRetainedTTL]
  | some t =>
      dsimp only
      by_cases hp : t > 0
      · -- `omega` below takes the value of the constant from these two
        have hM : (Generated.msgRetainedTTL : Int) = 4294967295 := rfl
        have hM' : Generated.msgRetainedTTL = 4294967295 := rfl
        simp only [hp, if_true]
        -- the clamp (D15): at or above 2³²−1 the model's ttl is the constant, below it is `t`
        by_cases h : t ≥ 4294967295
        · -- above the bound by the clamp, at it because `t.toNat` is the constant
          have h1 : (if t > (Generated.msgRetainedTTL : Int) then Generated.msgRetainedTTL else t.toNat) =
              Generated.msgRetainedTTL := by split <;> omega
          rw [h1]
          simp [h, hM']
        · have h2 : ¬ t > (Generated.msgRetainedTTL : Int) := by omega
          have h3 : t.toNat > 0 := by omega
          have h4 : ¬ t.toNat = Generated.msgRetainedTTL := by omega
          simp [h, h2, h3, h4]
      · simp only [hp, if_false]
        cases retain <;> simp [Generated.msgRetainedTTL]

/-- the record an accepted message leaves, as the specification says it -/
def Spec.kept (R : Nat) (seq : Nat) (g : Grant) (ch : Channel) (retain : Bool) (payload : Bytes) : Option Spec.Rec :=
  if g.has permStore then
    (Spec.requestedTtl R retain ch).map (fun ttl => ⟨g.contract, ch.query, ch.channel, payload, ttl, seq⟩)
  else none

theorem absStore_keep (b : B) (g : Grant) (ch : Channel) (retain : Bool) (payload : Bytes) :
    absStore (keep b g ch retain payload) =
      { absStore b with log := (absStore b).log ++
          (Spec.kept (absStore b).retention (absStore b).log.length g ch retain payload).toList } := by
  have k := keep_frame b g ch retain payload
  have hlog : absLog (keep b g ch retain payload).store =
      absLog b.store ++ (Spec.kept b.retain b.store.length g ch retain payload).toList := by
    unfold keep Spec.kept
    rw [requestedTtl_eq]
    by_cases hs : g.has permStore = true
    · by_cases ht : ttlOf retain ch > 0
      · simp only [ht, hs, decide_true, Bool.and_self, if_true, storeMsg, absLog_snoc, Option.map_some,
          Option.toList_some]
        rfl
      · simp [ht, hs]
    · simp [hs]
  unfold absStore
  rw [keep_conns, k.banned, k.retain, hlog, absLog_length]

theorem Spec.acceptedSub_eq (auth : Auth) (banned : List Bytes) (topic : Bytes) :
    Spec.acceptedSub auth banned topic = admitSub auth banned (parseChannel (fixTopic topic)) permRead := rfl

theorem Spec.stored_eq (auth : Auth) (banned : List Bytes) (R seq : Nat) (retain : Bool) (topic payload : Bytes) :
    Spec.stored auth banned R seq retain topic payload =
      (admitPub auth banned (parseChannel topic)).bind
        (fun g => Spec.kept R seq g (parseChannel topic) retain payload) := by
  unfold Spec.stored admitPub
  dsimp only
  split
  · rfl
  · rename_i hs
    unfold admitSub
    rw [if_neg (by simpa using static_ne_invalid (by simpa using hs))]
    cases auth banned (parseChannel topic) permWrite with
    | none => rfl
    | some g =>
        dsimp only
        cases hx : g.has permExtend
        · simp only [Bool.false_eq_true, if_false, Option.bind_some, Spec.kept]
          cases g.has permStore
          · rfl
          · cases Spec.requestedTtl R retain (parseChannel topic) <;> rfl
        · rfl

theorem absStore_of_frame {b b' : B} (hc : b'.conns.map absClient = b.conns.map absClient)
    (hf : Frame b b' ∧ b'.store = b.store) :
    absStore b' = absStore b := by
  unfold absStore; rw [hc, hf.1.banned, hf.1.retain, hf.2]

theorem absStore_subscribeConn {b : B} {c : Conn} (hnd : (b.conns.map (·.name)).Nodup)
    (hc : b.conn? c.name = some c) (σ : Path) (ch : Bytes) :
    absStore (subscribeConn b c σ ch).1 = absStore b := by
  refine absStore_of_frame ?_ (subscribeConn_frame b c σ ch)
  rw [subscribeConn_eq]
  split
  · rfl
  · exact setConn_abs_same hnd hc rfl rfl

theorem absStore_unsubscribeConn {b : B} {c : Conn} (hnd : (b.conns.map (·.name)).Nodup)
    (hc : b.conn? c.name = some c) (σ : Path) (ch : Bytes) :
    absStore (unsubscribeConn b c σ ch).1 = absStore b := by
  refine absStore_of_frame ?_ (unsubscribeConn_frame b c σ ch)
  rw [unsubscribeConn_conns]
  exact setConn_abs_same hnd hc rfl rfl

theorem client?_of_conn {b : B} {c : Conn} (hc : b.conn? c.name = some c) :
    (absStore b).client? c.name = some (absInfo c) := by
  rw [client?_abs, hc]; rfl

theorem Spec.stepStore_idle {auth : Auth} {s : Spec.StoreState} {name : String} {r : Req}
    (hr : match r with | .subscribe .. => True | .unsubscribe .. => True | .presence .. => True | _ => False) :
    Spec.stepStore auth s name r = s := by
  unfold Spec.stepStore
  split
  · rfl
  · split
    · rfl
    · cases r with
      | subscribe | unsubscribe | presence => simp [Spec.appended]
      | _ => exact hr.elim

theorem absStore_banned (b : B) : (absStore b).banned = b.banned := rfl
theorem absStore_retention (b : B) : (absStore b).retention = b.retain := rfl
theorem absStore_log (b : B) : (absStore b).log = absLog b.store := rfl

theorem resolve_abs (c : Conn) (topic : Bytes) : (absInfo c).resolve topic = resolve c topic := rfl

theorem Spec.with_log_nil (s : Spec.StoreState) : { s with log := s.log ++ (none : Option Spec.Rec).toList } = s := by
  simp

theorem lastWill_retain (auth : Auth) (b : B) (c : Conn) : (lastWill auth b c).1.retain = b.retain :=
  (lastWill_frame auth b c).retain

/-- the last will is stored under the rule of a publish: the record `Spec.stored` names for the
will announced at CONNECT -/
theorem lastWill_abs (auth : Auth) (b : B) (c : Conn) :
    absStore (lastWill auth b c).1 =
      { absStore b with log := (absStore b).log ++
          (match (absInfo c).will with
           | some w => Spec.stored auth b.banned b.retain (absStore b).log.length w.retain w.topic w.message
           | none => none).toList } := by
  rw [lastWill_eq]
  simp only [absInfo]
  split
  · simp only [Spec.stored_eq]
    cases admitPub auth b.banned (parseChannel c.willTopic) with
    | none => exact (Spec.with_log_nil _).symm
    | some g => rw [absStore_keep]; rfl
  · exact (Spec.with_log_nil _).symm

theorem closeConn_abs (auth : Auth) (b : B) (c : Conn)
    (hnd : (b.conns.map (·.name)).Nodup) (hc : b.conn? c.name = some c) (ha : c.alive = true) :
    absStore (closeConn auth b c).1 = Spec.stepStore auth (absStore b) c.name .close := by
  have ho : (absInfo c).open_ = true := ha
  obtain ⟨cs', F, n⟩ := closeConn_normal auth hnd hc
  have hF : absStore F = absStore b :=
    absStore_of_frame (b := { b with open_ := b.open_ - 1 })
      (by rw [n.conns]; exact setConn_abs_same hnd hc rfl rfl) ⟨n.frame, n.store⟩
  simp only [Spec.stepStore, client?_of_conn hc, ho, Spec.appended, Bool.not_true, Bool.false_eq_true, if_false]
  rw [n.eq, absStore_setConn, lastWill_abs, hF, n.frame.banned, n.frame.retain]
  rfl

/-- **every request of every connection refines `Spec.stepStore`** (the connection names being
distinct): the abstraction of the model's next state is the specification's next state -/
theorem step_abs (auth : Auth) (b : B) (name : String) (r : Req) (hnd : (b.conns.map (·.name)).Nodup) :
    absStore (step auth b name r).1 = Spec.stepStore auth (absStore b) name r := by
  rcases step_cases auth b name r with ⟨h0, hd⟩ | ⟨c, rfl, hc, ha⟩
  · rw [h0]
    simp only [Spec.stepStore, client?_abs]
    cases hq : b.conn? name with
    | none => rfl
    | some c => simp [absInfo, hd c hq]
  · have hi := client?_of_conn hc
    have ho : (absInfo c).open_ = true := ha
    rw [step_fst auth hc ha]
    cases r with
    | connect un wf wr wt wm =>
        simp only [next, Spec.stepStore, hi, ho, Spec.appended]
        rw [absStore_setConn]
        simp [absInfo, Spec.StoreState.setClient, ha]
    | subscribe mid topic qos =>
        rw [Spec.stepStore_idle trivial]
        simp only [next]; split
        · exact absStore_subscribeConn hnd hc _ _
        · rfl
    | unsubscribe mid topic =>
        rw [Spec.stepStore_idle trivial]
        simp only [next]; split
        · exact absStore_unsubscribeConn hnd hc _ _
        · rfl
    | publish qos retain mid topic payload =>
        simp only [next, Spec.stepStore, hi, ho, Spec.appended, resolve_abs, absStore_banned, Spec.stored_eq,
          Bool.not_true, Bool.false_eq_true, if_false]
        cases admitPub auth b.banned (parseChannel (resolve c topic)) with
        | none => exact (Spec.with_log_nil _).symm
        | some g => rw [absStore_keep]; rfl
    | link mid nm key channel sub =>
        simp only [next, Spec.stepStore, hi, ho, Spec.appended, Option.toList_none, List.append_nil, Bool.not_true,
          Bool.false_eq_true, if_false]
        split
        · generalize hlk : ((nm, (parseChannel (key ++ [sep] ++ channel)).toBytes) ::
              c.links.filter (fun x => x.1 != nm)) = lk
          have hc1 : (b.setConn { c with links := lk }).conn? c.name = some { c with links := lk } :=
            conn?_replaced hc rfl rfl
          have hnd1 : ((b.setConn { c with links := lk }).conns.map (·.name)).Nodup := by
            rw [setConn_names]; exact hnd
          have hset : absStore (b.setConn { c with links := lk }) =
              (absStore b).setClient c.name { absInfo c with links := lk } := absStore_setConn b { c with links := lk }
          refine Eq.trans ?_ (hset.trans ?_)
          · split
            · split
              · exact absStore_subscribeConn (c := { c with links := lk }) hnd1 hc1 _ _
              · rfl
            · rfl
          · rw [← hlk]
            simp [absInfo, ha, Spec.StoreState.setClient]
        · rfl
    | presence mid key channel status changes =>
        rw [Spec.stepStore_idle trivial]
        simp only [next]; split
        · exact absStore_subscribeConn hnd hc _ _
        · exact absStore_unsubscribeConn hnd hc _ _
        · rfl
    | close => exact closeConn_abs auth b c hnd hc ha

theorem applyEv_abs (auth : Auth) (b : B) (e : Spec.Ev) (hnd : (b.conns.map (·.name)).Nodup) :
    absStore (applyEv auth b e).1 = Spec.applyStore auth (absStore b) e := by
  cases e with
  | accept n g => simp [applyEv, accept, Spec.applyStore, absStore, absClient, absInfo]
  | req n r => exact step_abs auth b n r hnd
  | ban keys => rfl

theorem Spec.runStore_cons (auth : Auth) (S : Spec.StoreState) (e : Spec.Ev) (es : List Spec.Ev) :
    Spec.runStore auth S (e :: es) = Spec.runStore auth (Spec.applyStore auth S e) es := rfl

theorem Spec.runStore_append (auth : Auth) (S : Spec.StoreState) (h₁ h₂ : List Spec.Ev) :
    Spec.runStore auth S (h₁ ++ h₂) = Spec.runStore auth (Spec.runStore auth S h₁) h₂ := by
  unfold Spec.runStore; rw [List.foldl_append]

/-- the specification state a pristine broker starts from: nobody connected; the ban list, the
configured retention and the messages already in the store are the broker's -/
def Spec.initStore (b₀ : B) : Spec.StoreState :=
  { banned := b₀.banned, retention := b₀.retain, clients := [], log := absLog b₀.store }

theorem store_history_refines (auth : Auth) (b₀ : B) (h0 : Pristine b₀) (evs : List Spec.Ev)
    (hwf : Spec.wellFormed evs = true) :
    absStore (run auth b₀ evs) = Spec.runStore auth (Spec.initStore b₀) evs := by
  rw [show Spec.initStore b₀ = absStore b₀ by unfold absStore Spec.initStore; rw [h0.1]; rfl]
  exact (run_sim auth (R := fun b s => absStore b = s) (f := Spec.applyStore auth)
    (fun b _ e _ hs _ hr => hr ▸ applyEv_abs auth b e hs.names) evs b₀ _ (sync_pristine h0)
    (fresh_of_wellFormed h0 hwf) rfl).2

theorem keep_storeWF {b : B} (h : StoreWF b.store) (g : Grant) (ch : Channel) (retain : Bool) (payload : Bytes) :
    StoreWF (keep b g ch retain payload).store := by
  unfold keep
  split
  · exact List.forall_mem_append.2 ⟨h, by simp⟩
  · exact h

theorem step_storeWF (auth : Auth) (b : B) (name : String) (r : Req) (hnd : (b.conns.map (·.name)).Nodup)
    (h : StoreWF b.store) : StoreWF (step auth b name r).1.store := by
  refine step_invariant auth (I := fun b => StoreWF b.store) (hset := fun h' _ _ _ _ _ => h')
    (hsub := fun h' _ _ σ ch => ?sub) (hunsub := fun h' _ _ σ ch => ?unsub) (hkeep := keep_storeWF)
    b name r h (hclose := fun c hc _ => ?close)
  case sub =>
    rw [(subscribeConn_frame _ _ σ ch).2]
    exact h'
  case unsub =>
    rw [(unsubscribeConn_frame _ _ σ ch).2]
    exact h'
  case close =>
    -- the unsubscribes leave the store alone; the last will is kept like a publish, or not at all
    obtain ⟨cs', F, n⟩ := closeConn_normal auth hnd hc
    rw [n.eq]
    rcases lastWill_fst auth F { c with counters := cs' } with e | ⟨g, e⟩ <;> rw [B.setConn, e]
    · exact n.store ▸ h
    · exact keep_storeWF (n.store ▸ h) g _ _ _

theorem applyEv_storeWF (auth : Auth) (b : B) (e : Spec.Ev) (hs : Sync b) (h : StoreWF b.store) :
    StoreWF (applyEv auth b e).1.store := by
  cases e with
  | accept n g => exact h
  | ban keys => exact h
  | req n r => exact step_storeWF auth b n r hs.names h

/-- an invariant is a simulation of the one-point system -/
theorem run_storeWF (auth : Auth) {b₀ : B} (h0 : Pristine b₀) (hst : StoreWF b₀.store) {evs : List Spec.Ev}
    (hwf : Spec.wellFormed evs = true) : StoreWF (run auth b₀ evs).store :=
  (run_sim auth (R := fun b (_ : Unit) => StoreWF b.store) (f := fun u _ => u)
    (fun b _ e _ hs _ hr => applyEv_storeWF auth b e hs hr) evs b₀ () (sync_pristine h0) (fresh_of_wellFormed h0 hwf) hst).2

theorem store_history_exact (auth : Auth) (b₀ : B) (h0 : Pristine b₀) (hst : StoreWF b₀.store)
    (evs : List Spec.Ev) (hwf : Spec.wellFormed evs = true) :
    let L := (Spec.runStore auth (Spec.initStore b₀) evs).log
    L = absLog (run auth b₀ evs).store ∧
    (run auth b₀ evs).store = L.map Spec.Rec.toStored ∧
    L.map (·.seq) = List.range L.length := by
  intro L
  have h : L = absLog (run auth b₀ evs).store := by
    show (Spec.runStore auth (Spec.initStore b₀) evs).log = _
    rw [← store_history_refines auth b₀ h0 evs hwf]; rfl
  refine ⟨h, ?_, ?_⟩
  · rw [h]
    exact (toStored_absLog _ (run_storeWF auth h0 hst hwf)).symm
  · rw [h, absLog_seq, absLog_length]

theorem levelPrefix_eq (q s : Path) : Spec.levelPrefix q s =
    (decide (q.length ≤ s.length) &&
      (q.zip s).all (fun (a, x) => a == x || a == Trie.wildcard || a == Trie.multiWildcard)) :=
  eq_zip_all (fun a x => a == x || a == Trie.wildcard || a == Trie.multiWildcard) Spec.levelPrefix (fun _ => rfl)
    (fun _ _ => rfl) (fun _ _ _ _ => rfl) q s

theorem ssidMatches_cons (c c' : UInt32) (q s : Path) :
    ssidMatches (c :: q) (c' :: s) = (c' == c && q.take 1 == s.take 1 && Spec.levelPrefix q s) := by
  rw [levelPrefix_eq]
  unfold ssidMatches
  simp only [List.length_cons, Nat.add_le_add_iff_right, List.zip_cons_cons, List.all_cons]
  have h2 : ((c :: q).take 2 == (c' :: s).take 2) = (c == c' && q.take 1 == s.take 1) := by
    show ((c :: q.take 1) == (c' :: s.take 1)) = _
    rw [List.cons_beq_cons]
  rw [h2]
  by_cases hcc : c = c'
  · subst hcc
    simp only [beq_self_eq_true, Bool.true_and, Bool.true_or]
    cases decide (q.length ≤ s.length) <;> cases (q.take 1 == s.take 1) <;> simp
  · have h1 : (c == c') = false := by simpa using hcc
    have h3 : (c' == c) = false := by simpa using fun h => hcc h.symm
    simp [h1, h3]

theorem matches_toStored (c : UInt32) (q : Path) (r : Spec.Rec) :
    r.matches c q = ssidMatches (c :: q) r.toStored.ssid := by
  rw [Spec.Rec.toStored, ssidMatches_cons]; rfl

theorem filter_absLog (c : UInt32) (q : Path) (s : List Stored) (h : StoreWF s) :
    ((absLog s).filter (Spec.Rec.matches c q)).map Spec.Rec.toStored =
      s.filter (fun m => ssidMatches (c :: q) m.ssid) := by
  have hp : Spec.Rec.matches c q = (fun m => ssidMatches (c :: q) m.ssid) ∘ Spec.Rec.toStored :=
    funext (matches_toStored c q)
  rw [hp, ← List.filter_map, toStored_absLog s h]

theorem queryStore_abs (b : B) (h : StoreWF b.store) (c : UInt32) (q : Path) (n : Nat) :
    queryStore b (c :: q) n =
      (Spec.lastN n ((absLog b.store).filter (Spec.Rec.matches c q))).map Spec.Rec.toStored := by
  unfold queryStore Spec.lastN
  dsimp only
  rw [← filter_absLog c q b.store h, List.map_drop, List.length_map]

/-- **replay, in one state**: an accepted SUBSCRIBE of an open connection is answered with presence
notifications (to the watchers of the channel), then exactly the records `Spec.replay` names — as
PUBLISH packets to the subscriber, channel and payload unchanged, in order of arrival — and then the
SUBACK; the store is not changed -/
theorem replay_refined (auth : Auth) (b : B) (hwf : StoreWF b.store) (now : Int) (name : String) (c : Conn)
    (mid : UInt16) (topic : Bytes) (qos : UInt8) (g : Grant)
    (hc : b.conn? name = some c) (ha : c.alive = true)
    (hacc : Spec.acceptedSub auth b.banned topic = some g)
    (hwin : Spec.inWindow now (parseChannel (fixTopic topic)).window = true) :
    let ch := parseChannel (fixTopic topic)
    ∃ notes : Out, (∀ e ∈ notes, ∃ t f, e.2 = Pkt.json t f) ∧
      (step auth b name (.subscribe mid topic qos)).2 =
        notes ++ (Spec.replay now (absLog b.store) g ch.query ch.last ch.window).map
                    (fun r => (name, Pkt.pub r.channel r.payload))
              ++ [(name, .suback mid [qos])] := by
  simp only [step_subscribe auth hc ha, Spec.acceptedSub_eq auth b.banned topic ▸ hacc]
  generalize parseChannel (fixTopic topic) = ch at hwin ⊢
  refine ⟨(subscribeConn b c (g.contract :: ch.query) ch.channel).2,
    fun e he => subscribeConn_out_json he, ?_⟩
  unfold Spec.replay
  rw [queryStore_congr (subscribeConn_frame b c _ _).2, queryStore_abs b hwf, List.map_map, hwin]
  -- `step` spells the limit `Spec.limitOf ch.last` as a `match` of its own
  cases g.has permLoad <;> cases ch.last <;> rfl

/-- the client is known and open -/
def Spec.StoreState.isOpen (s : Spec.StoreState) (name : String) : Bool :=
  match s.client? name with
  | some i => i.open_
  | none => false

theorem conn_of_isOpen {b : B} {name : String} (h : (absStore b).isOpen name = true) :
    ∃ c, b.conn? name = some c ∧ c.alive = true := by
  unfold Spec.StoreState.isOpen at h
  rw [client?_abs] at h
  cases hc : b.conn? name with
  | none => rw [hc] at h; cases h
  | some c => rw [hc] at h; exact ⟨c, rfl, h⟩

theorem Spec.replayFor_accepted {auth : Auth} {s : Spec.StoreState} {topic : Bytes} {g : Grant} (now : Int)
    (h : Spec.acceptedSub auth s.banned topic = some g) :
    Spec.replayFor auth now s topic =
      Spec.replay now s.log g (parseChannel (fixTopic topic)).query (parseChannel (fixTopic topic)).last
        (parseChannel (fixTopic topic)).window := by
  unfold Spec.replayFor; rw [h]

theorem Spec.replay_noload {now : Int} {L : List Spec.Rec} {g : Grant} {q : Path} {last : Option Int}
    {w : Int × Int} (h : g.has permLoad = false) : Spec.replay now L g q last w = [] := by
  unfold Spec.replay; rw [h]; rfl

theorem replay_history_exact (auth : Auth) (b₀ : B) (h0 : Pristine b₀) (hst : StoreWF b₀.store)
    (evs : List Spec.Ev) (hwf : Spec.wellFormed evs = true)
    (now : Int) (name : String) (mid : UInt16) (topic : Bytes) (qos : UInt8) (g : Grant)
    (hopen : (Spec.runStore auth (Spec.initStore b₀) evs).isOpen name = true)
    (hacc : Spec.acceptedSub auth (Spec.runStore auth (Spec.initStore b₀) evs).banned topic = some g)
    (hwin : Spec.inWindow now (parseChannel (fixTopic topic)).window = true) :
    let S := Spec.runStore auth (Spec.initStore b₀) evs
    let ch := parseChannel (fixTopic topic)
    let r := step auth (run auth b₀ evs) name (.subscribe mid topic qos)
    (∃ notes : Out, (∀ e ∈ notes, ∃ t f, e.2 = Pkt.json t f) ∧
      r.2 = notes ++ (Spec.replay now S.log g ch.query ch.last ch.window).map
                        (fun m => (name, Pkt.pub m.channel m.payload))
                  ++ [(name, .suback mid [qos])]) ∧
    (g.has permLoad = false → Spec.replay now S.log g ch.query ch.last ch.window = []) ∧
    Spec.replayFor auth now S topic = Spec.replay now S.log g ch.query ch.last ch.window ∧
    absStore r.1 = S ∧ r.1.store = (run auth b₀ evs).store := by
  -- the specification state is the abstraction of the model state: `S.log` is `absLog` of the store, `S.banned` the ban list
  rw [← store_history_refines auth b₀ h0 evs hwf] at hopen hacc ⊢
  have hwf' : StoreWF (run auth b₀ evs).store := run_storeWF auth h0 hst hwf
  obtain ⟨c, hc, ha⟩ := conn_of_isOpen hopen
  refine ⟨replay_refined auth (run auth b₀ evs) hwf' now name c mid topic qos g hc ha hacc hwin,
    fun h => Spec.replay_noload h, Spec.replayFor_accepted now hacc, ?_, ?_⟩
  · obtain ⟨hs, _, _⟩ := history_refines auth b₀ h0 evs hwf
    rw [step_abs auth _ name _ hs.names]
    exact Spec.stepStore_idle trivial
  · obtain ⟨hv, hauth, hx⟩ := admitSub_eq_some.1 (Spec.acceptedSub_eq auth _ topic ▸ hacc)
    exact (Broker.replay_exact auth (run auth b₀ evs) name c mid topic qos g hc ha hv hauth hx).1

theorem Spec.publish_unstored (auth : Auth) {s : Spec.StoreState} (n : String) (qos : UInt8) (retain : Bool)
    (mid : UInt16) (topic payload : Bytes)
    (h : Spec.stores auth s (.req n (.publish qos retain mid topic payload)) = none) :
    Spec.applyStore auth s (.req n (.publish qos retain mid topic payload)) = s := by
  simp only [Spec.applyStore, Spec.stepStore]
  simp only [Spec.stores] at h
  cases hi : s.client? n with
  | none => rfl
  | some i =>
      rw [hi] at h
      dsimp only at h ⊢
      cases ho : i.open_ with
      | false => rfl
      | true =>
          rw [ho] at h
          simp only [if_true] at h
          simp [h]

/-- the property's words for "not to be stored": no retain flag and no positive ttl option, or
a key without the store permission (the publisher being the client `i`) -/
def Spec.unstorable (auth : Auth) (s : Spec.StoreState) (i : Spec.Client) (retain : Bool) (topic : Bytes) : Prop :=
  (retain = false ∧ ∀ t, (parseChannel (i.resolve topic)).ttl = some t → t ≤ 0) ∨
  (∀ g, auth s.banned (parseChannel (i.resolve topic)) permWrite = some g → g.has permStore = false)

theorem Spec.requestedTtl_none {R : Nat} {ch : Channel} (h : ∀ t, ch.ttl = some t → t ≤ 0) :
    Spec.requestedTtl R false ch = none := by
  unfold Spec.requestedTtl
  cases ht : ch.ttl with
  | none => rfl
  | some t =>
      have := h t ht
      dsimp only
      rw [if_neg (by omega)]
      rfl

theorem Spec.stores_unstorable (auth : Auth) {s : Spec.StoreState} (n : String) (qos : UInt8) (retain : Bool)
    (mid : UInt16) (topic payload : Bytes)
    (h : ∀ i, s.client? n = some i → Spec.unstorable auth s i retain topic) :
    Spec.stores auth s (.req n (.publish qos retain mid topic payload)) = none := by
  simp only [Spec.stores]
  cases hi : s.client? n with
  | none => rfl
  | some i =>
      dsimp only
      split
      · simp only [Spec.appended, Spec.stored_eq]
        cases hq : admitPub auth s.banned (parseChannel (i.resolve topic)) with
        | none => rfl
        | some g =>
            simp only [Option.bind_some, Spec.kept]
            rcases h i hi with ⟨hr, ht⟩ | hs
            · subst hr; rw [Spec.requestedTtl_none ht]; split <;> rfl
            · rw [hs g (admitPub_eq_some.1 hq).2.1]; rfl
      · rfl

theorem unstored_never_replayed (auth : Auth) (b₀ : B) (h0 : Pristine b₀) (hst : StoreWF b₀.store)
    (h₁ : List Spec.Ev) (n : String) (pq : UInt8) (retain : Bool) (pm : UInt16) (ptopic payload : Bytes)
    (h₂ : List Spec.Ev)
    (hwf : Spec.wellFormed (h₁ ++ .req n (.publish pq retain pm ptopic payload) :: h₂) = true)
    (hno : ∀ i, (Spec.runStore auth (Spec.initStore b₀) h₁).client? n = some i →
             Spec.unstorable auth (Spec.runStore auth (Spec.initStore b₀) h₁) i retain ptopic) :
    let evs := h₁ ++ .req n (.publish pq retain pm ptopic payload) :: h₂
    let S' := Spec.runStore auth (Spec.initStore b₀) (h₁ ++ h₂)
    Spec.runStore auth (Spec.initStore b₀) evs = S' ∧
    absStore (run auth b₀ evs) = S' ∧
    ∀ (now : Int) (name : String) (mid : UInt16) (topic : Bytes) (qos : UInt8) (g : Grant),
      S'.isOpen name = true → Spec.acceptedSub auth S'.banned topic = some g →
      Spec.inWindow now (parseChannel (fixTopic topic)).window = true →
      ∃ notes : Out, (∀ e ∈ notes, ∃ t f, e.2 = Pkt.json t f) ∧
        (step auth (run auth b₀ evs) name (.subscribe mid topic qos)).2 =
          notes ++ (Spec.replay now S'.log g (parseChannel (fixTopic topic)).query
                      (parseChannel (fixTopic topic)).last (parseChannel (fixTopic topic)).window).map
                        (fun m => (name, Pkt.pub m.channel m.payload))
                ++ [(name, .suback mid [qos])] := by
  intro evs S'
  have hS : Spec.runStore auth (Spec.initStore b₀) evs = S' := by
    show Spec.runStore auth _ (h₁ ++ _ :: h₂) = Spec.runStore auth _ (h₁ ++ h₂)
    rw [Spec.runStore_append, Spec.runStore_cons, Spec.runStore_append,
      Spec.publish_unstored auth n pq retain pm ptopic payload
        (Spec.stores_unstorable auth n pq retain pm ptopic payload hno)]
  refine ⟨hS, ?_, ?_⟩
  · rw [← hS]; exact store_history_refines auth b₀ h0 evs hwf
  · intro now name mid topic qos g hopen hacc hwin
    rw [← hS] at hopen hacc ⊢
    exact (replay_history_exact auth b₀ h0 hst evs hwf now name mid topic qos g hopen hacc hwin).1

/-- "the last N": the N most recent ones, oldest first (cf. `C07.last_n`) -/
theorem Spec.lastN_eq {α : Type} (n : Nat) (l : List α) : Spec.lastN n l = (l.reverse.take n).reverse := by
  unfold Spec.lastN
  rw [List.take_reverse, List.reverse_reverse]

theorem Spec.lastN_length {α : Type} (n : Nat) (l : List α) : (Spec.lastN n l).length = min n l.length := by
  unfold Spec.lastN
  rw [List.length_drop]
  omega

theorem Spec.lastN_sublist {α : Type} (n : Nat) (l : List α) : (Spec.lastN n l).Sublist l :=
  List.drop_sublist _ _

theorem Spec.replay_zero (now : Int) (L : List Spec.Rec) (g : Grant) (q : Path) (w : Int × Int) :
    Spec.replay now L g q (some 0) w = [] := by
  unfold Spec.replay Spec.lastN Spec.limitOf
  split
  · rfl
  split
  · rfl
  simp

theorem Spec.replay_sublist (now : Int) (L : List Spec.Rec) (g : Grant) (q : Path) (last : Option Int) (w : Int × Int) :
    (Spec.replay now L g q last w).Sublist (L.filter (Spec.Rec.matches g.contract q)) ∧
    (Spec.replay now L g q last w).length ≤ Spec.limitOf last := by
  unfold Spec.replay
  split
  · exact ⟨List.nil_sublist _, Nat.zero_le _⟩
  split
  · exact ⟨List.nil_sublist _, Nat.zero_le _⟩
  exact ⟨Spec.lastN_sublist _ _, by rw [Spec.lastN_length]; exact Nat.min_le_left _ _⟩

theorem Spec.replay_mem {now : Int} {L : List Spec.Rec} {g : Grant} {q : Path} {last : Option Int} {w : Int × Int}
    {r : Spec.Rec} (h : r ∈ Spec.replay now L g q last w) : r ∈ L ∧ r.matches g.contract q = true :=
  List.mem_filter.1 ((Spec.replay_sublist now L g q last w).1.subset h)

theorem Spec.replay_all (now : Int) (L : List Spec.Rec) (g : Grant) (q : Path) (last : Option Int) (w : Int × Int)
    (hl : g.has permLoad = true) (hw : Spec.inWindow now w = true)
    (hn : (L.filter (Spec.Rec.matches g.contract q)).length ≤ Spec.limitOf last) :
    Spec.replay now L g q last w = L.filter (Spec.Rec.matches g.contract q) := by
  unfold Spec.replay Spec.lastN
  rw [hl, hw]
  simp only [Bool.not_true, Bool.false_eq_true, if_false]
  rw [Nat.sub_eq_zero_of_le hn, List.drop_zero]

/-- no from/until option (or values outside the accepted range): every second is inside -/
theorem Spec.inWindow_open (now : Int) (h : 0 ≤ now) : Spec.inWindow now (0, 0) = true := by
  simp [Spec.inWindow, h]

theorem replay_history_pubs (auth : Auth) (b₀ : B) (h0 : Pristine b₀) (hst : StoreWF b₀.store)
    (evs : List Spec.Ev) (hwf : Spec.wellFormed evs = true)
    (now : Int) (name : String) (mid : UInt16) (topic : Bytes) (qos : UInt8) (g : Grant)
    (hopen : (Spec.runStore auth (Spec.initStore b₀) evs).isOpen name = true)
    (hacc : Spec.acceptedSub auth (Spec.runStore auth (Spec.initStore b₀) evs).banned topic = some g)
    (hwin : Spec.inWindow now (parseChannel (fixTopic topic)).window = true) :
    let out := (step auth (run auth b₀ evs) name (.subscribe mid topic qos)).2
    out.filter isPub =
      (Spec.replayFor auth now (Spec.runStore auth (Spec.initStore b₀) evs) topic).map
        (fun m => (name, Pkt.pub m.channel m.payload)) ∧
    out.getLast? = some (name, .suback mid [qos]) := by
  intro out
  obtain ⟨⟨notes, hn, hout⟩, _, hrf, _, _⟩ :=
    replay_history_exact auth b₀ h0 hst evs hwf now name mid topic qos g hopen hacc hwin
  have hout' : out = notes ++ (Spec.replayFor auth now (Spec.runStore auth (Spec.initStore b₀) evs) topic).map
      (fun m => (name, Pkt.pub m.channel m.payload)) ++ [(name, .suback mid [qos])] := by
    rw [hrf]; exact hout
  rw [hout']
  refine ⟨(filter_notes (fun e he => ?_) (fun e he => ?_)).trans (List.append_nil _), List.getLast?_concat⟩
  · obtain ⟨t, f, hj⟩ := hn e he
    obtain ⟨n, p⟩ := e
    simp only at hj
    subst hj
    rfl
  · obtain ⟨m, _, rfl⟩ := List.mem_map.1 he
    rfl

end Emitter.Broker
