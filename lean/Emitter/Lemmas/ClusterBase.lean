/-
  C05 — lemma library, part 1, in this order: the subscription key codec, peer counters, the memberlist, the route
  list, counting the active entries of a (peer, ssid) in an LWW map (`cnt` through `cons` / `set`, `activeOf`), the
  transitions of a walk (`dplus`, `dminus`: the vocabulary of `WInv`), and `cnt` through `mergeOne` / `merge`.
-/
import Emitter.Model.Cluster
import Emitter.Lemmas.Lww

namespace Emitter.Cluster
open Emitter Emitter.Lww

theorem rdNat_be64 (n : Nat) : rdNat (be64 n) = n % 18446744073709551616 := by
  have e : be64 n = beBytes 8 n := by simp only [be64, beBytes, Nat.reducePow, Nat.div_one]
  -- `rdNat` is `beNat` under another name
  rw [e]; exact beNat_beBytes 8 n

theorem rdWords_ssidBytes (σ : Ssid) : rdWords (ssidBytes σ) = σ := by
  induction σ with
  | nil => rfl
  | cons w ws ih =>
    show rdWords (putBe32 w ++ ssidBytes ws) = w :: ws
    unfold putBe32
    simp only [List.cons_append, List.nil_append, rdWords, ih, be32_putBe32]

theorem ssidBytes_length (σ : Ssid) : (ssidBytes σ).length = 4 * σ.length := by
  induction σ with
  | nil => rfl
  | cons w ws ih => rw [ssidBytes, List.length_append, ih, putBe32_length, List.length_cons]; omega

theorem encKey_take8 (p c : Nat) (σ : Ssid) : (encKey p c σ).take 8 = be64 p := rfl

theorem encKey_drop8_take8 (p c : Nat) (σ : Ssid) : ((encKey p c σ).drop 8).take 8 = be64 c := rfl

theorem encKey_drop16 (p c : Nat) (σ : Ssid) : (encKey p c σ).drop 16 = ssidBytes σ := rfl

theorem encKey_length (p c : Nat) (σ : Ssid) : (encKey p c σ).length = 16 + 4 * σ.length := by
  unfold encKey be64
  simp only [List.cons_append, List.nil_append, List.length_cons, ssidBytes_length]
  omega

/-- `decodeSubscription(Key())` is the identity on (peer, conn, ssid) for 64-bit names and a
non-empty ssid -/
theorem decKey_encKey (p : PeerName) (c : ConnId) {σ : Ssid} (hσ : σ ≠ []) :
    decKey (encKey p c σ) = some ⟨p % 18446744073709551616, c % 18446744073709551616, σ⟩ := by
  unfold decKey
  rw [encKey_take8, encKey_drop8_take8, encKey_drop16, encKey_length, rdWords_ssidBytes, rdNat_be64, rdNat_be64]
  have h1 : ¬ (16 + 4 * σ.length < 16) := by omega
  have h2 : σ.isEmpty = false := by cases σ with | nil => exact absurd rfl hσ | cons _ _ => rfl
  simp [h1, h2]

theorem decKey_encKey_nil (p : PeerName) (c : ConnId) : decKey (encKey p c []) = none := by
  unfold decKey
  rw [encKey_drop16, encKey_length]
  simp [ssidBytes, rdWords]

theorem keyIs_iff (k : Bytes) (p : PeerName) (σ : Ssid) :
    keyIs k p σ = true ↔ ∃ sk, decKey k = some sk ∧ sk.peer = p ∧ sk.ssid = σ := by
  unfold keyIs
  cases decKey k <;> simp

theorem keyPeer_iff (k : Bytes) (p : PeerName) :
    keyPeer k p = true ↔ ∃ sk, decKey k = some sk ∧ sk.peer = p := by
  unfold keyPeer
  cases decKey k <;> simp

theorem keyPeer_of_keyIs {k : Bytes} {p : PeerName} {σ : Ssid} (h : keyIs k p σ = true) : keyPeer k p = true := by
  rw [keyIs_iff] at h; rw [keyPeer_iff]
  obtain ⟨sk, h1, h2, _⟩ := h
  exact ⟨sk, h1, h2⟩

theorem keyIs_of_dec {k : Bytes} {sk : SubKey} (h : decKey k = some sk) (p : PeerName) (σ : Ssid) :
    keyIs k p σ = true ↔ (p = sk.peer ∧ σ = sk.ssid) := by
  rw [keyIs_iff, h]
  constructor
  · rintro ⟨sk', h1, h2, h3⟩
    cases h1
    exact ⟨h2.symm, h3.symm⟩
  · rintro ⟨h2, h3⟩
    exact ⟨sk, rfl, h2.symm, h3.symm⟩

theorem keyIs_of_dec_none {k : Bytes} (h : decKey k = none) (p : PeerName) (σ : Ssid) : keyIs k p σ = false := by
  unfold keyIs; rw [h]

theorem keyIs_encKey_iff (q : PeerName) (c : ConnId) (σ : Ssid) (p : PeerName) (σ' : Ssid) :
    keyIs (encKey q c σ) p σ' = true ↔ σ ≠ [] ∧ p = q % 18446744073709551616 ∧ σ' = σ := by
  by_cases hσ : σ = []
  · subst hσ
    rw [keyIs_of_dec_none (decKey_encKey_nil q c)]
    exact ⟨fun h => Bool.noConfusion h, fun ⟨h, _⟩ => absurd rfl h⟩
  · rw [keyIs_of_dec (decKey_encKey _ _ hσ)]
    exact (and_iff_right hσ).symm

theorem keyPeer_encKey (self : PeerName) (hself : self < 18446744073709551616) (c : ConnId) (σ : Ssid)
    (p : PeerName) (h : keyPeer (encKey self c σ) p = true) : p = self := by
  unfold keyPeer at h
  by_cases hσ : σ = []
  · subst hσ; rw [decKey_encKey_nil] at h; cases h
  · rw [decKey_encKey _ _ hσ, Nat.mod_eq_of_lt hself] at h; exact (eq_of_beq h).symm

theorem encKey_peer_inj {p p' : PeerName} {c c' : ConnId} {σ σ' : Ssid}
    (hp : p < 18446744073709551616) (hp' : p' < 18446744073709551616)
    (h : encKey p c σ = encKey p' c' σ') : p = p' := by
  have h2 : rdNat ((encKey p c σ).take 8) = rdNat ((encKey p' c' σ').take 8) := by rw [h]
  rw [encKey_take8, encKey_take8, rdNat_be64, rdNat_be64, Nat.mod_eq_of_lt hp, Nat.mod_eq_of_lt hp'] at h2
  exact h2

theorem encKey_inj {p : PeerName} {c c' : ConnId} {σ σ' : Ssid}
    (hc : c < 18446744073709551616) (hc' : c' < 18446744073709551616) (hσ : σ ≠ []) (hσ' : σ' ≠ [])
    (h : encKey p c σ = encKey p c' σ') : c = c' ∧ σ = σ' := by
  have h1 : decKey (encKey p c σ) = decKey (encKey p c' σ') := by rw [h]
  rw [decKey_encKey _ _ hσ, decKey_encKey _ _ hσ', Nat.mod_eq_of_lt hc, Nat.mod_eq_of_lt hc'] at h1
  simp only [Option.some.injEq, SubKey.mk.injEq] at h1
  exact ⟨h1.2.1, h1.2.2⟩

/-- every stored counter is at least 1 (a counter that reaches 0 is removed) -/
def CWF (cs : Counters) : Prop := ∀ σ n, cs.lookup σ = some n → 1 ≤ n

theorem cwf_nil : CWF [] := by
  intro σ n h
  simp at h

theorem cget_nil (σ : Ssid) : cget [] σ = 0 := rfl

theorem lookup_cset (cs : Counters) (σ : Ssid) (n : Nat) (σ' : Ssid) :
    (cset cs σ n).lookup σ' = if σ' = σ then some n else cs.lookup σ' :=
  glookup_set cs σ σ' n

theorem lookup_cdel (cs : Counters) (σ σ' : Ssid) :
    (cdel cs σ).lookup σ' = if σ' = σ then none else cs.lookup σ' := by
  unfold cdel
  rw [glookup_filter_ne]

theorem cget_cset (cs : Counters) (σ : Ssid) (n : Nat) (σ' : Ssid) :
    cget (cset cs σ n) σ' = if σ' = σ then n else cget cs σ' := by
  unfold cget
  rw [lookup_cset]
  by_cases h : σ' = σ <;> simp [h]

theorem cget_cdel (cs : Counters) (σ σ' : Ssid) :
    cget (cdel cs σ) σ' = if σ' = σ then 0 else cget cs σ' := by
  unfold cget
  rw [lookup_cdel]
  by_cases h : σ' = σ <;> simp [h]

theorem cwf_cset {cs : Counters} (σ : Ssid) {n : Nat} (h : CWF cs) (hn : 1 ≤ n) : CWF (cset cs σ n) := by
  intro σ' m hm
  rw [lookup_cset] at hm
  by_cases hσ : σ' = σ
  · simp [hσ] at hm; omega
  · simp [hσ] at hm; exact h σ' m hm

theorem cwf_cdel {cs : Counters} (σ : Ssid) (h : CWF cs) : CWF (cdel cs σ) := by
  intro σ' m hm
  rw [lookup_cdel] at hm
  by_cases hσ : σ' = σ
  · simp [hσ] at hm
  · simp [hσ] at hm; exact h σ' m hm

theorem cget_cinc (cs : Counters) (σ σ' : Ssid) :
    cget (cinc cs σ).1 σ' = if σ' = σ then cget cs σ + 1 else cget cs σ' := by
  unfold cinc
  exact cget_cset _ _ _ _

theorem cinc_first (cs : Counters) (σ : Ssid) : (cinc cs σ).2 = (cget cs σ == 0) := rfl

theorem cwf_cinc {cs : Counters} (σ : Ssid) (h : CWF cs) : CWF (cinc cs σ).1 := by
  unfold cinc
  exact cwf_cset _ h (by omega)

/-- `Decrement` by the value of the counter: nothing there, the last one (the counter is removed), or more than one left -/
theorem cdec_cases {cs : Counters} (σ : Ssid) (h : CWF cs) :
    (cget cs σ = 0 ∧ cdec cs σ = (cs, false)) ∨ (cget cs σ = 1 ∧ cdec cs σ = (cdel cs σ, true)) ∨
    (1 < cget cs σ ∧ cdec cs σ = (cset cs σ (cget cs σ - 1), false)) := by
  unfold cdec cget
  cases hl : cs.lookup σ with
  | none => exact .inl ⟨rfl, rfl⟩
  | some n =>
    have hn := h σ n hl
    by_cases h1 : n ≤ 1
    · exact .inr (.inl ⟨Nat.le_antisymm h1 hn, if_pos h1⟩)
    · exact .inr (.inr ⟨Nat.lt_of_not_le h1, if_neg h1⟩)

theorem cget_cdec (cs : Counters) (σ σ' : Ssid) (h : CWF cs) :
    cget (cdec cs σ).1 σ' = if σ' = σ then cget cs σ - 1 else cget cs σ' := by
  rcases cdec_cases σ h with ⟨h0, e⟩ | ⟨h0, e⟩ | ⟨_, e⟩ <;> rw [e]
  · split
    · rename_i hσ; rw [hσ, h0]
    · rfl
  · rw [cget_cdel, h0]
  · rw [cget_cset]

theorem cdec_last (cs : Counters) (σ : Ssid) (h : CWF cs) : (cdec cs σ).2 = (cget cs σ == 1) := by
  rcases cdec_cases σ h with ⟨h0, e⟩ | ⟨h0, e⟩ | ⟨h0, e⟩ <;> rw [e]
  · rw [h0]; rfl
  · rw [h0]; rfl
  · exact (beq_false_of_ne (Nat.ne_of_gt h0)).symm

theorem cwf_cdec {cs : Counters} (σ : Ssid) (h : CWF cs) : CWF (cdec cs σ).1 := by
  rcases cdec_cases σ h with ⟨_, e⟩ | ⟨_, e⟩ | ⟨h0, e⟩ <;> rw [e]
  · exact h
  · exact cwf_cdel _ h
  · exact cwf_cset _ h (by omega)

theorem mget_mset (ms : Members) (p q : PeerName) (r : PeerRec) :
    mget (mset ms p r) q = if q = p then (mget ms p).map (fun _ => r) else mget ms q := by
  unfold mget mset
  induction ms with
  | nil => by_cases h : q = p <;> simp [h]
  | cons e ms ih =>
    obtain ⟨a, b⟩ := e
    rw [List.map_cons]
    by_cases ha : a = p
    · subst ha
      simp only [beq_self_eq_true, if_true]
      simp only [glookup_cons_eq]
      by_cases h : q = a
      · subst h; simp
      · simp only [h, if_false] at ih ⊢; exact ih
    · have : (a == p) = false := by simpa using ha
      simp only [this, Bool.false_eq_true, if_false, glookup_cons_eq, ih]
      by_cases h : q = p
      · subst h
        have h1 : ¬ q = a := fun h => ha h.symm
        simp [h1]
      · simp [h]

theorem ne_of_mget {ms : Members} {p q : PeerName} {r : PeerRec} (h : mget ms p = some r) (hq : mget ms q = none) :
    p ≠ q := fun e => by
  rw [e, hq] at h; cases h

theorem mget_append_new {ms : Members} {p : PeerName} (q : PeerName) (r : PeerRec) (h : mget ms p = none) :
    mget (ms ++ [(p, r)]) q = if q = p then some r else mget ms q := by
  unfold mget at *
  rw [List.lookup_append, glookup_cons_eq]
  by_cases hq : q = p
  · rw [hq, h, if_pos rfl, if_pos rfl]; rfl
  · rw [if_neg hq, if_neg hq]; exact Option.or_none

theorem mget_filter_ne (ms : Members) (p q : PeerName) :
    mget (ms.filter (fun e => e.1 != p)) q = if q = p then none else mget ms q := by
  unfold mget
  exact glookup_filter_ne ms p q

theorem hasRoute_iff (rs : List Route) (σ : Ssid) (p : PeerName) :
    hasRoute rs σ p = true ↔ ∃ g, (σ, p, g) ∈ rs := by
  unfold hasRoute
  rw [List.any_eq_true]
  constructor
  · rintro ⟨⟨a, b, g⟩, hm, hx⟩
    simp only [Bool.and_eq_true, beq_iff_eq] at hx
    exact ⟨g, hx.1 ▸ hx.2 ▸ hm⟩
  · exact fun ⟨g, hm⟩ => ⟨(σ, p, g), hm, by simp⟩

/-- `routeAdd` where every route of (σ, p) that is there already has the generation `g`: afterwards (σ, p, g) is a
route, and that is the only change -/
theorem mem_routeAdd {rs : List Route} {σ : Ssid} {p : PeerName} {g : Nat} (h : ∀ g', (σ, p, g') ∈ rs → g' = g)
    (x : Route) : x ∈ routeAdd rs σ p g ↔ x ∈ rs ∨ x = (σ, p, g) := by
  unfold routeAdd
  cases hh : hasRoute rs σ p with
  | false =>
    -- no route of (σ, p) yet: the new one is put in front
    rw [if_neg Bool.false_ne_true, List.mem_cons]
    exact Or.comm
  | true =>
    -- a route of (σ, p) is there: it is this one, and nothing is added
    obtain ⟨g', hg'⟩ := (hasRoute_iff rs σ p).mp hh
    rw [if_pos rfl, ← h g' hg']
    exact (or_iff_left_of_imp fun hx => hx ▸ hg').symm

theorem mem_routeDel (rs : List Route) (σ : Ssid) (p : PeerName) (x : Route) :
    x ∈ routeDel rs σ p ↔ x ∈ rs ∧ ¬ (x.1 = σ ∧ x.2.1 = p) := by
  unfold routeDel
  rw [List.mem_filter]
  simp only [Bool.not_eq_true', Bool.and_eq_false_iff, beq_eq_false_iff_ne, ne_eq, Classical.not_and_iff_not_or_not]

theorem has_of_not_mem (m : Map) (k : Bytes) (h : k ∉ m.map Prod.fst) : has m k = false := by
  unfold has; rw [get_of_not_mem m k h]; rfl

theorem length_filter_cons {α : Type} (q : α → Bool) (a : α) (l : List α) :
    ((a :: l).filter q).length = (if q a then 1 else 0) + (l.filter q).length := by
  rw [← List.countP_eq_length_filter, ← List.countP_eq_length_filter, List.countP_cons, Nat.add_comm]

theorem cnt_cons (e : Bytes × Val) (s : Map) (p : PeerName) (σ : Ssid) :
    cnt (e :: s) p σ = (if e.2.isAdded && keyIs e.1 p σ then 1 else 0) + cnt s p σ :=
  length_filter_cons _ e s

theorem cnt_split (s : Map) (hs : NoDup s) (k : Bytes) (p : PeerName) (σ : Ssid) :
    cnt s p σ = (if has s k && keyIs k p σ then 1 else 0) + cnt (s.filter (fun e => e.1 != k)) p σ := by
  induction s with
  | nil => rw [has_nil]; rfl
  | cons e tail ih =>
    obtain ⟨k0, v0⟩ := e
    have hs' : k0 ∉ tail.map Prod.fst ∧ NoDup tail := List.nodup_cons.1 hs
    by_cases h : k0 = k
    · subst h
      rw [List.filter_cons_of_neg (by simp), filter_ne_of_not_mem tail k0 hs'.1, cnt_cons, has_cons, if_pos rfl]
    · have hne : ¬ k = k0 := fun h' => h h'.symm
      rw [List.filter_cons_of_pos (by simpa using h), cnt_cons, cnt_cons, has_cons, if_neg hne, ih hs'.2]
      omega

theorem cnt_set (s : Map) (hs : NoDup s) (k : Bytes) (v : Val) (p : PeerName) (σ : Ssid) :
    cnt (set s k v) p σ + (if has s k && keyIs k p σ then 1 else 0) =
      cnt s p σ + (if v.isAdded && keyIs k p σ then 1 else 0) := by
  have h := cnt_split s hs k p σ
  have h2 := cnt_cons (k, v) (s.filter (fun e => e.1 != k)) p σ
  simp only at h2
  unfold Lww.set
  omega

theorem cnt_pos_iff (s : Map) (p : PeerName) (σ : Ssid) :
    0 < cnt s p σ ↔ ∃ k v, (k, v) ∈ s ∧ v.isAdded = true ∧ keyIs k p σ = true := by
  unfold cnt
  rw [List.length_pos_iff_exists_mem]
  simp only [List.mem_filter, Bool.and_eq_true, Prod.exists]

theorem cnt_pos_iff_has (s : Map) (hs : NoDup s) (p : PeerName) (σ : Ssid) :
    0 < cnt s p σ ↔ ∃ k, has s k = true ∧ keyIs k p σ = true := by
  rw [cnt_pos_iff]
  constructor
  · rintro ⟨k, v, h1, h2, h3⟩
    refine ⟨k, ?_, h3⟩
    unfold has Lww.get
    rw [lookup_of_mem hs h1]
    exact h2
  · rintro ⟨k, h1, h2⟩
    unfold has Lww.get at h1
    cases hl : List.lookup k s with
    | none => rw [hl] at h1; exact absurd h1 (by decide)
    | some v =>
      rw [hl] at h1
      exact ⟨k, v, mem_of_lookup hl, h1, h2⟩

theorem cnt_nil (p : PeerName) (σ : Ssid) : cnt [] p σ = 0 := rfl

theorem mem_activeOf (s : Map) (p : PeerName) (c : ConnId) (σ : Ssid) :
    (c, σ) ∈ activeOf s p ↔ ∃ k v, (k, v) ∈ s ∧ v.isAdded = true ∧ decKey k = some ⟨p, c, σ⟩ := by
  unfold activeOf
  simp only [List.mem_filterMap, Prod.exists]
  refine exists_congr fun k => exists_congr fun v => and_congr_right fun _ => ?_
  -- one entry: the three tests of `activeOf` against the three facts
  cases v.isAdded <;> cases decKey k with
  | none => simp
  | some sk =>
    obtain ⟨p', c', σ'⟩ := sk
    by_cases hp : p' = p <;> simp [hp]

theorem activeOf_iff_cnt (s : Map) (p : PeerName) (σ : Ssid) :
    (∃ c, (c, σ) ∈ activeOf s p) ↔ 0 < cnt s p σ := by
  rw [cnt_pos_iff]
  constructor
  · rintro ⟨c, hc⟩
    obtain ⟨k, v, hm, hv, hd⟩ := (mem_activeOf s p c σ).mp hc
    exact ⟨k, v, hm, hv, (keyIs_iff k p σ).mpr ⟨_, hd, rfl, rfl⟩⟩
  · rintro ⟨k, v, hm, hv, hk⟩
    obtain ⟨sk, hd, h1, h2⟩ := (keyIs_iff k p σ).mp hk
    refine ⟨sk.conn, (mem_activeOf s p sk.conn σ).mpr ⟨k, v, hm, hv, ?_⟩⟩
    rw [hd, ← h1, ← h2]

theorem cnt_zero_of_activeOf_nil {s : Map} {p : PeerName} (h : activeOf s p = []) (σ : Ssid) : cnt s p σ = 0 :=
  Nat.eq_zero_of_not_pos fun hpos => by
    obtain ⟨c, hc⟩ := (activeOf_iff_cnt s p σ).2 hpos
    rw [h] at hc; cases hc

/-- transitions of a walk: entries of (p, σ) in `ks` that became active / inactive -/
def dplus (bf af : Bytes → Bool) (ks : List Bytes) (p : PeerName) (σ : Ssid) : Nat :=
  (ks.filter (fun k => keyIs k p σ && !bf k && af k)).length

def dminus (bf af : Bytes → Bool) (ks : List Bytes) (p : PeerName) (σ : Ssid) : Nat :=
  (ks.filter (fun k => keyIs k p σ && bf k && !af k)).length

theorem dplus_perm (bf af : Bytes → Bool) {ks ks' : List Bytes} (h : ks.Perm ks') (p : PeerName) (σ : Ssid) :
    dplus bf af ks p σ = dplus bf af ks' p σ :=
  (h.filter _).length_eq

theorem dminus_perm (bf af : Bytes → Bool) {ks ks' : List Bytes} (h : ks.Perm ks') (p : PeerName) (σ : Ssid) :
    dminus bf af ks p σ = dminus bf af ks' p σ :=
  (h.filter _).length_eq

theorem dplus_nil (bf af : Bytes → Bool) (p : PeerName) (σ : Ssid) : dplus bf af [] p σ = 0 := rfl

theorem dminus_nil (bf af : Bytes → Bool) (p : PeerName) (σ : Ssid) : dminus bf af [] p σ = 0 := rfl

theorem dplus_cons (bf af : Bytes → Bool) (k : Bytes) (ks : List Bytes) (p : PeerName) (σ : Ssid) :
    dplus bf af (k :: ks) p σ = (if keyIs k p σ && !bf k && af k then 1 else 0) + dplus bf af ks p σ :=
  length_filter_cons _ k ks

theorem dminus_cons (bf af : Bytes → Bool) (k : Bytes) (ks : List Bytes) (p : PeerName) (σ : Ssid) :
    dminus bf af (k :: ks) p σ = (if keyIs k p σ && bf k && !af k then 1 else 0) + dminus bf af ks p σ :=
  length_filter_cons _ k ks

theorem dplus_congr {bf bf' : Bytes → Bool} (af : Bytes → Bool) {ks : List Bytes} (p : PeerName) (σ : Ssid)
    (h : ∀ k ∈ ks, bf k = bf' k) : dplus bf af ks p σ = dplus bf' af ks p σ :=
  congrArg List.length (List.filter_congr fun k hk => by rw [h k hk])

theorem dminus_congr {bf bf' : Bytes → Bool} (af : Bytes → Bool) {ks : List Bytes} (p : PeerName) (σ : Ssid)
    (h : ∀ k ∈ ks, bf k = bf' k) : dminus bf af ks p σ = dminus bf' af ks p σ :=
  congrArg List.length (List.filter_congr fun k hk => by rw [h k hk])

theorem dminus_zero (bf af : Bytes → Bool) (ks : List Bytes) (p : PeerName) (σ : Ssid)
    (h : ∀ k, keyIs k p σ = true → bf k = false) : dminus bf af ks p σ = 0 := by
  induction ks with
  | nil => rfl
  | cons k ks ih =>
    rw [dminus_cons, ih]
    cases hk : keyIs k p σ
    · simp
    · simp [h k hk]

/-- entries that were active and are walked are distinct active entries of the old state -/
theorem dminus_le_cnt (s : Map) (hs : NoDup s) (af : Bytes → Bool) {ks : List Bytes} (hk : ks.Nodup)
    (p : PeerName) (σ : Ssid) : dminus (has s) af ks p σ ≤ cnt s p σ := by
  induction ks generalizing s with
  | nil => rw [dminus_nil]; exact Nat.zero_le _
  | cons k ks ih =>
    rw [List.nodup_cons] at hk
    rw [dminus_cons]
    by_cases hc : (keyIs k p σ && has s k && !af k) = true
    · rw [if_pos hc]
      simp only [Bool.and_eq_true] at hc
      have h1 := cnt_split s hs k p σ
      rw [hc.1.1, hc.1.2] at h1
      simp only [Bool.and_self, if_true] at h1
      have h2 := ih (s.filter (fun e => e.1 != k)) (nodup_filter s _ hs) hk.2
      have h3 : dminus (has (s.filter (fun e => e.1 != k))) af ks p σ = dminus (has s) af ks p σ := by
        apply dminus_congr
        intro k' hk'
        refine has_filter_ne s k k' ?_
        intro he; subst he; exact hk.1 hk'
      omega
    · rw [if_neg hc]
      have := ih s hs hk.2
      omega

theorem has_merge_of_not_delta (s r : Map) (hs : NonNeg s) (hr : NoDup r) (k : Bytes)
    (h : k ∉ (merge s r).2.map Prod.fst) : has (merge s r).1 k = has s k := by
  apply has_congr
  have := (delta_mem_iff s r hs hr k)
  apply Classical.byContradiction
  intro hne
  obtain ⟨v, hv⟩ := this.2 hne
  exact h (List.mem_map.2 ⟨(k, v), hv, rfl⟩)

theorem cnt_mergeOne (s : Map) (hs : NoDup s) (k : Bytes) (rt : Val) (p : PeerName) (σ : Ssid) :
    cnt (mergeOne s k rt).1 p σ + (if has s k && keyIs k p σ then 1 else 0) =
      cnt s p σ + (if has (mergeOne s k rt).1 k && keyIs k p σ then 1 else 0) := by
  rw [mergeOne_def]
  split
  · rfl
  · simp only
    rw [has_set, if_pos rfl]
    exact cnt_set s hs k _ p σ

/-- counting through a merge: active entries of (p, σ) afterwards + walked keys that became inactive = active entries
before + walked keys that became active -/
theorem cnt_merge (s r : Map) (hs : NoDup s) (hr : NoDup r) (p : PeerName) (σ : Ssid) :
    cnt (merge s r).1 p σ + dminus (has s) (has (merge s r).1) ((merge s r).2.map Prod.fst) p σ =
      cnt s p σ + dplus (has s) (has (merge s r).1) ((merge s r).2.map Prod.fst) p σ := by
  induction r generalizing s with
  | nil => rw [merge_nil]; rfl
  | cons e rest ih =>
    obtain ⟨k, rt⟩ := e
    have hr' : k ∉ rest.map Prod.fst ∧ NoDup rest := List.nodup_cons.1 hr
    have IH := ih (mergeOne s k rt).1 (nodup_mergeOne s k rt hs) hr'.2
    have hM : has (merge (mergeOne s k rt).1 rest).1 k = has (mergeOne s k rt).1 k := by
      unfold has; rw [get_merge_of_not_mem _ hr'.1]
    -- the keys of the rest of the delta are not `k`: merging `k` left their activity alone
    have hcg : ∀ k' ∈ (merge (mergeOne s k rt).1 rest).2.map Prod.fst, has (mergeOne s k rt).1 k' = has s k' := by
      intro k' hk'
      refine has_mergeOne_ne s k rt k' ?_
      intro he; subst he
      exact hr'.1 ((delta_keys_sublist _ rest).subset hk')
    rw [dminus_congr _ p σ hcg, dplus_congr _ p σ hcg] at IH
    have h1 := cnt_mergeOne s hs k rt p σ
    rw [merge_cons]
    simp only
    cases hd : (mergeOne s k rt).2 with
    | none =>
      simp only
      rw [mergeOne_fst_of_none s k rt hd] at h1 IH ⊢
      exact IH
    | some v =>
      simp only [List.map_cons]
      rw [dminus_cons, dplus_cons, hM]
      -- one key of (p, σ): was active + became active = is active + became inactive
      have : ∀ a b c : Bool, (if a && c then 1 else 0) + (if c && !a && b then 1 else 0) =
          (if b && c then 1 else 0) + (if c && a && !b then 1 else 0) := by
        intro a b c; cases a <;> cases b <;> cases c <;> rfl
      have := this (has s k) (has (mergeOne s k rt).1 k) (keyIs k p σ)
      omega

end Emitter.Cluster
