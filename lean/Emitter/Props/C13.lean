/-
  C13 — Gossip payloads carry exactly what is new and lose nothing queued.
  Property-level statements; what takes more than a few lines is proved in Emitter/Lemmas/Lww.lean (section
  "deltas") and Emitter/Lemmas/Gossip.lean. The predicates of the second part
  (GoodEmission, GoodPending, Intact, SenderUnion) are defined in Emitter/Spec/SenderUnion.lean,
  the executable pointwise reading of the first part (deltaMap, deltaState) in Emitter/Spec/Delta.lean.

  Notation: `(s', d) = merge s r` is `Volatile.Merge` / `Durable.Merge` with `s` the local map and `r` the
  incoming one (`d` is what `r` has been turned into); `tget m k` = (add time, remove time) of key `k`, (0,0)
  when absent; `NonNeg s`: every stored time ≥ 0 — an invariant of every reachable local state (C04
  `nonneg_preserved`); the incoming `r` is arbitrary (negative, zero, tying times, keys unknown locally), it
  only has to be a map (`NoDup`: no key twice).
-/
import Emitter.Lemmas.Gossip
namespace Emitter.C13
open Emitter Emitter.Lww Emitter.Gossip Emitter.Spec.Delta

/-! ## (a) the delta that is passed on -/

/-- The delta holds, for every key, exactly the incoming add time if it is newer than the local one, else 0,
and likewise the remove time. -/
theorem delta_times (s r : Map) (hs : NonNeg s) (hr : NoDup r) (k : Bytes) :
    tget (merge s r).2 k =
      (if (get s k).add < (get r k).add then (get r k).add else 0,
       if (get s k).del < (get r k).del then (get r k).del else 0) := Lww.delta_times s r hs hr k

/-- An entry of the delta is an incoming entry, with the times above, the incoming payload, and at least one
time kept; and every such incoming entry is in the delta. (Holds for any local `s`.) -/
theorem delta_entry (s r : Map) (hr : NoDup r) (k : Bytes) (v : Val) :
    (k, v) ∈ (merge s r).2 ↔
      ∃ rv, (k, rv) ∈ r ∧
        v = ⟨if (get s k).add < rv.add then rv.add else 0, if (get s k).del < rv.del then rv.del else 0, rv.payload⟩ ∧
        ¬ (v.add = 0 ∧ v.del = 0) := by
  rw [merge_snd s r hr, deltaMap, List.mem_filterMap]
  constructor
  · rintro ⟨⟨k', rv⟩, hmem, he⟩
    obtain ⟨hnz, he⟩ := Option.ite_none_left_eq_some.1 he
    cases he
    exact ⟨rv, hmem, rfl, hnz⟩
  · rintro ⟨rv, hmem, rfl, hnz⟩
    exact ⟨(k, rv), hmem, if_neg hnz⟩

/-- The model's delta IS the pointwise specification (the `S` column of the correspondence check), entry by
entry and in order; also for the three sets together, including the `nil` result. -/
theorem delta_is_spec (s r : Map) (hr : NoDup r) : (merge s r).2 = deltaMap s r := merge_snd s r hr

theorem state_delta_is_spec (s o : State) (ho : ∀ i, NoDup (o.sel i)) : (s.merge o).2 = deltaState s o := by
  rw [state_merge_snd]
  unfold deltaState
  rw [delta_is_spec s.sub o.sub (ho .sub), delta_is_spec s.ban o.ban (ho .ban), delta_is_spec s.conn o.conn (ho .conn)]
  simp only [List.isEmpty_iff_length_eq_zero, Bool.and_eq_true, beq_iff_eq, Nat.add_eq_zero_iff, and_assoc]

/-- A key is in the delta iff its times changed in the local state, iff one of its incoming times is newer. -/
theorem delta_iff_changed (s r : Map) (hs : NonNeg s) (hr : NoDup r) (k : Bytes) :
    ((∃ v, (k, v) ∈ (merge s r).2) ↔ tget (merge s r).1 k ≠ tget s k) ∧
    ((∃ v, (k, v) ∈ (merge s r).2) ↔ (get s k).add < (get r k).add ∨ (get s k).del < (get r k).del) :=
  ⟨delta_mem_iff s r hs hr k, by rw [delta_mem_iff_not_le s r hs hr]; unfold tle tget; omega⟩

/-- The delta is empty precisely when nothing changed, which is precisely when the payload had already been
absorbed (every incoming time ≤ the local one). -/
theorem delta_empty_iff (s r : Map) (hs : NonNeg s) (hr : NoDup r) :
    ((merge s r).2 = [] ↔ Equiv (merge s r).1 s) ∧ ((merge s r).2 = [] ↔ ∀ k, tle (tget r k) (tget s k)) :=
  ⟨Lww.delta_empty_iff s r hs hr, delta_empty_iff_absorbed s r hs hr⟩

/-- `State.Merge` returns nil iff all three deltas are empty, iff no add / remove time of any of the three
sets changed, iff the payload had already been absorbed: re-gossiping stops exactly then. -/
theorem state_merge_nil_iff (s o : State) (hs : StateOk s) (ho : ∀ i, NoDup (o.sel i)) :
    ((s.merge o).2 = none ↔ (merge s.sub o.sub).2 = [] ∧ (merge s.ban o.ban).2 = [] ∧ (merge s.conn o.conn).2 = []) ∧
    ((s.merge o).2 = none ↔ ∀ i k, tget ((s.merge o).1.sel i) k = tget (s.sel i) k) ∧
    ((s.merge o).2 = none ↔ ∀ i k, tle (tget (o.sel i) k) (tget (s.sel i) k)) := by
  have h : (s.merge o).2 = none ↔ ∀ i, (merge (s.sel i) (o.sel i)).2 = [] := by
    rw [state_merge_none_iff, forall_setId]; rfl
  refine ⟨state_merge_none_iff s o, ?_, ?_⟩ <;> rw [h]
  · exact forall_congr' fun i => by rw [state_merge_sel]; exact Lww.delta_empty_iff _ _ (hs i).1 (ho i)
  · exact forall_congr' fun i => delta_empty_iff_absorbed _ _ (hs i).1 (ho i)

/-- Re-gossiping stops once replicas agree: the payload that was just merged, merged again, leaves nothing. -/
theorem regossip_stops (s r : Map) (hs : NonNeg s) (hr : NoDup r) : (merge (merge s r).1 r).2 = [] :=
  Lww.regossip_stops s r hs hr

/-- No new update is withheld from onward relay. For every replica `t`: relaying the delta contributes, per
key, exactly the incoming times that were new to `s` (`relay_exact`); so together with what `s` knew, `t`
ends with the same times whether it gets the delta or the original payload (`relay_sufficient`), and a `t`
that had already absorbed `s` ends in the same state (`relay_downstream`); in particular `s` itself. -/
theorem relay_exact (s r t : Map) (hs : NonNeg s) (ht : NonNeg t) (hr : NoDup r) (k : Bytes) :
    tget (merge t (merge s r).2).1 k =
      tmax (tget t k) (if (get s k).add < (get r k).add then (get r k).add else 0,
                       if (get s k).del < (get r k).del then (get r k).del else 0) := Lww.relay_exact s r t hs ht hr k

theorem relay_sufficient (s r t : Map) (hs : NonNeg s) (ht : NonNeg t) (hr : NoDup r) (k : Bytes) :
    tmax (tget s k) (tget (merge t (merge s r).2).1 k) = tmax (tget s k) (tget (merge t r).1 k) :=
  Lww.relay_sufficient s r t hs ht hr k

theorem relay_downstream (s r t : Map) (hs : NonNeg s) (ht : NonNeg t) (hr : NoDup r)
    (hst : ∀ k, tle (tget s k) (tget t k)) : Equiv (merge t (merge s r).2).1 (merge t r).1 :=
  Lww.relay_downstream s r t hs ht hr hst

theorem relay_self (s r : Map) (hs : NonNeg s) (hr : NoDup r) : Equiv (merge s (merge s r).2).1 (merge s r).1 :=
  Lww.relay_self s r hs hr

/-- What is relayed is itself a well-formed payload with non-negative times, whatever came in. -/
theorem delta_wellformed (s r : Map) (hs : NonNeg s) (hr : NoDup r) : NonNeg (merge s r).2 ∧ NoDup (merge s r).2 :=
  ⟨delta_nonneg s r hs hr, delta_nodup s r hr⟩

/-- The durable backend computes the same state and the same delta, so every statement above holds of
`Durable.Merge` with `s := d.db`. -/
theorem durable_same_delta (d : Durable) (r : Map) :
    (d.merge r).1.db = (merge d.db r).1 ∧ (d.merge r).2 = (merge d.db r).2 := durable_merge_refines d r

theorem durable_delta_is_spec (d : Durable) (r : Map) (hr : NoDup r) : (d.merge r).2 = deltaMap d.db r := by
  rw [(durable_merge_refines d r).2]; exact delta_is_spec d.db r hr

/-! non-vacuity: local (5,7); incoming: same add and older remove for key 1 (nothing new), a key unknown locally
with a negative add and a remove, a tie; the delta keeps exactly the new remove time -/
example : (merge [([1], ⟨5, 7, []⟩)] [([1], ⟨5, 3, [9]⟩), ([2], ⟨-2, 4, [8]⟩)]).2 = [([2], ⟨0, 4, [8]⟩)] := by decide

example : NonNeg [([1], ⟨5, 7, []⟩)] := nonneg_singleton _ (by decide) (by decide)

example : (({ ban := [([1], ⟨5, 7, []⟩)] } : State).merge { ban := [([1], ⟨5, 7, [3]⟩)], sub := [([2], ⟨0, 0, []⟩)] }).2 = none := by decide

/-! ## (b) payloads queued on a link -/

/-- The second sentence, for the payload type of the repaired swarm.go, for ALL call sequences: any heap of
payload objects satisfying the invariants (shared between links or not, the live state among them), any
sequence of `Send` / `Broadcast` / `pick` on any number of links, any legal choice of `pick` among the
`broadcasts` entries, interleaved with arbitrary growth of the live state:
 * every payload emitted lies between the join of what was queued on its bucket since the last pick (values at
   queueing time) and the join of the present values of those objects;
 * no call panics or deadlocks; a bucket on which something was queued always holds a payload that would be a
   good emission now (nothing is dropped);
 * no object handed to the library is ever modified. -/
theorem sender_union : SenderUnion implUnion := by
  refine ⟨fun h cs hh hc => ?_, fun w l b r => ⟨put_heap mergeUnion_heap w l b r, pick_heap _ w l b⟩⟩
  have := run_inv cs { heap := h } (inv_init h hh) hc
  exact ⟨this.2, pending_of_inv this.1⟩

/-- with objects that do not change while queued (everything but the live state) the emission is exactly the join -/
theorem sender_union_exact (sent : Option State) (q : List (Ref × State)) (h : Heap) (hg : GoodEmission sent q h)
    (hsame : ∀ e ∈ q, curValue h e.1 = e.2) :
    ∃ x, sent = some x ∧ ∀ i k, tget (x.sel i) k = sjoin (q.map (·.2)) i k := by
  obtain ⟨x, hx, hb⟩ := hg
  refine ⟨x, hx, fun i k => ?_⟩
  have := hb i k
  rw [List.map_congr_left hsame] at this
  exact tle_antisymm this.2 this.1

/-- The hypotheses of `sender_union` are met by what the swarm hands over: a `Notify` operation, a delta
returned by a merge whatever the incoming payload held, and the live state, which only grows. -/
theorem swarm_payloads_ok (s o d : State) (hs : StateOk s) (ho : ∀ i, NoDup (o.sel i)) (h : (s.merge o).2 = some d) :
    StateOk d ∧ StateOk (s.merge o).1 :=
  ⟨fun i => by rw [state_delta_sel s o d h i]; exact ⟨delta_nonneg _ _ (hs i).1 (ho i), delta_nodup _ _ (ho i)⟩,
    stateOk_merge s o hs⟩

theorem live_state_grows (s r : Map) (k : Bytes) (now : Int) (p : Bytes) (hs : NonNeg s) (hr : NoDup r) (k' : Bytes) :
    tle (tget s k') (tget (merge s r).1 k') ∧ tle (tget s k') (tget (add s k now p) k') ∧ tle (tget s k') (tget (del s k now) k') :=
  ⟨merge_grows hs hr k', add_grows s k now p hs k', del_grows s k now hs k'⟩

/-- The same statement is FALSE of the code before the repair (defect D4: `*event.State` handed to mesh, whose
`Merge` returns the delta and rewrites its argument): two different operations broadcast over one link — only
the second is sent. -/
theorem sender_union_refuted : ¬ SenderUnion implDelta := by
  intro h
  have h1 := (h.1 [opA, opB] lostUpdate heapOk_AB ⟨trivial, trivial, trivial, trivial⟩).1
  rw [lostUpdate_emits] at h1
  obtain ⟨x, hx, hb⟩ := h1 _ List.mem_cons_self
  cases hx
  have := (hb .ban k1).1
  revert this
  decide

/-- further literal witnesses on the unrepaired payload type (each replayed on the real code, see
notes/defects/C13-D4-sender-merge-is-delta.txt): a duplicate empties the queue; an object shared by two links is
rewritten; a pending delta followed by the live durable state panics; the full state followed by a delta is
dropped; the same object twice deadlocks; a nil entry in `broadcasts` panics on the next `Broadcast` (the last one
is `Gossip.nil_entry_panics` in Lemmas/Gossip.lean). -/
theorem refuted_duplicate : ¬ GoodPending implDelta (run implDelta { heap := [opA, opA] } duplicate).1 := by
  intro h
  have hg : ((run implDelta { heap := [opA, opA] } duplicate).1.links 0).ghost none = [(0, opA.st), (1, opA.st)] := rfl
  obtain ⟨d, hd, _⟩ := h 0 none (by rw [hg]; simp)
  have hb : ((run implDelta { heap := [opA, opA] } duplicate).1.links 0).bk none = none := rfl
  rw [hb] at hd
  cases hd

theorem refuted_shared : ¬ Intact implDelta := by
  intro h
  have := (h (run implDelta { heap := [opA, opB] } [.put 0 (some 1) 0, .put 1 (some 1) 0]).1 0 (some 1) 1).1
  have := congrArg (fun hp => (curValue hp 0).ban) this
  revert this
  decide

theorem refuted_live_panics :
    (run implDelta { heap := [liveA, opB] } [.put 0 none 1, .put 0 none 0]).2 = [.panicked 0 none] := rfl

theorem refuted_live_dropped :
    ((run implDelta { heap := [{ liveA with st := { ban := [(k1, ⟨5, 0, []⟩), (k2, ⟨5, 0, []⟩)] } }, opB] }
        [.put 0 none 0, .put 0 none 1]).1.links 0).bk none = none := rfl

theorem refuted_repeat_deadlocks :
    (run implDelta { heap := [opA] } [.put 0 (some 1) 0, .put 0 (some 1) 0]).2 = [.hung 0 (some 1)] := rfl

/-! non-vacuity: the history that refutes the unrepaired code, on the repaired payload type, emits both updates;
its heap and calls satisfy the hypotheses of `sender_union` -/
example : HeapOk [opA, opB] ∧ CallsOk implUnion { heap := [opA, opB] } lostUpdate := ⟨heapOk_AB, trivial, trivial, trivial, trivial⟩

example : ∃ x, (run implUnion { heap := [opA, opB] } lostUpdate).2 = [.emitted 0 (some 1) (some x) [(0, opA.st), (1, opB.st)] [opA, opB]] ∧
    tget x.ban k1 = (5, 0) ∧ tget x.ban k2 = (5, 0) := ⟨_, rfl, by decide, by decide⟩
/-- the live state (object 0) queued, then grown, then picked: the emission is the grown value (within the bounds) -/
example : (run implUnion { heap := [liveA] } [.put 0 none 0, .grow 0 { ban := [(k1, ⟨5, 9, []⟩)] }, .pick 0 none]).2 =
    [.emitted 0 none (some { ban := [(k1, ⟨5, 9, []⟩)] }) [(0, liveA.st)] [{ liveA with st := { ban := [(k1, ⟨5, 9, []⟩)] } }]] := rfl

end Emitter.C13
