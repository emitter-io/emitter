/-
  C17 — Transport adapters deliver the byte stream unchanged.
  Property-level statements; the lemmas are in Emitter/Lemmas/Transport.lean.

  Vocabulary (Emitter/Model/Transport.lean):
  * `Src` — a byte source with an arbitrary partition of its stream into the pieces successive
    `Read` calls get (empty pieces = `(0, nil)` reads; `tailErr` = the error arrives together
    with the last data, as crypto/tls does); `Src.stream` is what the client sent.
  * `serve s ms` — `Listener.serve`: one `startSniffing` phase per matcher of `ms`, in order,
    `doneSniffing` after the first that matches. A matcher is `MatchAny`, `MatchPrefix strs`
    (`io.ReadFull` of longest+1 bytes) or `custom sizes verdict`: ANY reader behaviour, given
    as the list of buffer sizes it reads with and its answer — so "all matcher sets" below
    ranges over every number of sniffing phases, each reading any amounts with any buffers.
  * `handover src ms after d` (Emitter/Lemmas/Transport.lean, like `wsHandover` for the websocket
    transport) — what the reads after the hand-over return: first the buffer sizes `after`, then a
    reader that drains with buffer size `d` until an error is reported.
  * `errAtEnd T got rs` (same file) — no read of `rs` reports an error before, together with the
    bytes `got` returned earlier, all of `T` has been returned.
  * `RR.early` — the flag C17.sniffed-error-replayed-early.
-/
import Emitter.Lemmas.Transport
namespace Emitter.C17
open Emitter Emitter.Transport

/-! ## regenerated facts -/
theorem fact_consts :
    Generated.wsTextMessage = 1 ∧ Generated.wsBinaryMessage = 2 ∧
    Generated.httpMethods = ["OPTIONS", "GET", "HEAD", "POST", "PATCH", "PUT", "DELETE", "TRACE", "CONNECT"] := by
  decide

/-- every matcher, whatever was peeked before it and however the socket chunks its reads, sees
the client stream from its first byte (a prefix of it) -/
theorem sniffer_phase_sees_prefix (src : Src) (ms : List (Nat × Matcher)) :
    ∀ rs ∈ (serve (Sniffer.new src) ms).2.1, cat rs <+: src.stream :=
  (serve_inv ms (Base.new src)).1

/-- after the hand-over, at every moment: bytes returned so far ++ sniffed bytes still to be
replayed ++ bytes not yet read from the socket = the client stream. Nothing is lost, doubled
or reordered, for every chunking, matcher set and sequence of buffer sizes. -/
theorem sniffer_stream (src : Src) (ms : List (Nat × Matcher)) (after : List Nat)
    (hm : (serve (Sniffer.new src) ms).1.isSome = true) :
    let q := (serve (Sniffer.new src) ms).2.2.reads after
    cat q.1 ++ q.2.pending ++ q.2.src.stream = src.stream := by
  obtain ⟨h, hT⟩ := (serve_inv ms (Base.new src)).2 hm
  have := Sniffer.loop.reads_left Sniffer.laws h after
  rwa [hT, Sniffer.left, ← List.append_assoc] at this

/-- FULL STATEMENT: a reader that drains the connection gets exactly the client stream, and no
read reports an error before the last byte was delivered. -/
def SnifferDelivers : Prop :=
  ∀ (src : Src) (ms : List (Nat × Matcher)) (after : List Nat) (d : Nat), 0 < d →
    (serve (Sniffer.new src) ms).1.isSome = true →
    cat (handover src ms after d).1 ++ cat (handover src ms after d).2 = src.stream ∧
    errAtEnd src.stream [] ((handover src ms after d).1 ++ (handover src ms after d).2) = true

/-- … proved for every run that does not raise the flag (the drain always terminates: the
fuel `todo + 1` is proved sufficient) … -/
theorem sniffer_delivers_partial (src : Src) (ms : List (Nat × Matcher)) (after : List Nat) (d : Nat)
    (hd : 0 < d) (hm : (serve (Sniffer.new src) ms).1.isSome = true)
    (hflag : ∀ r ∈ (handover src ms after d).1 ++ (handover src ms after d).2, r.early = false) :
    cat (handover src ms after d).1 ++ cat (handover src ms after d).2 = src.stream ∧
    errAtEnd src.stream [] ((handover src ms after d).1 ++ (handover src ms after d).2) = true := by
  obtain ⟨h, hT⟩ := (serve_inv ms (Base.new src)).2 hm
  rw [← hT]
  exact Sniffer.loop.deliver Sniffer.laws h after d hd hflag

/-- … the flag is never raised over a socket that reports errors only with `n = 0`
(`net.TCPConn`) … -/
theorem sniffer_flag_needs_data_with_error (src : Src) (ms : List (Nat × Matcher)) (after : List Nat) (d : Nat)
    (ht : src.tailErr = false) :
    (∀ rs ∈ (serve (Sniffer.new src) ms).2.1, ∀ r ∈ rs, r.early = false) ∧
    ∀ r ∈ (handover src ms after d).1 ++ (handover src ms after d).2, r.early = false := by
  have h1 := serve_noTail ms (s := Sniffer.new src) ⟨ht, rfl⟩
  exact ⟨h1.2, Sniffer.loop.forall_results NoTail.read h1.1 after d _⟩

/-- … hence, over such a socket, unconditionally: -/
theorem sniffer_delivers_net (src : Src) (ms : List (Nat × Matcher)) (after : List Nat) (d : Nat)
    (hd : 0 < d) (ht : src.tailErr = false) (hm : (serve (Sniffer.new src) ms).1.isSome = true) :
    cat (handover src ms after d).1 ++ cat (handover src ms after d).2 = src.stream ∧
    errAtEnd src.stream [] ((handover src ms after d).1 ++ (handover src ms after d).2) = true :=
  sniffer_delivers_partial src ms after d hd hm (sniffer_flag_needs_data_with_error src ms after d ht).2

/-- … and the full statement is false of the code (recorded finding
C17.sniffed-error-replayed-early): the stream 01 02 03 arrives together with EOF in one read
while a matcher sniffs 8 bytes; read back with a 2-byte buffer the first read is (01 02, EOF). -/
theorem sniffer_delivers_refuted : ¬ SnifferDelivers := by
  intro h
  have := h { chunks := [[1, 2, 3]], tailErr := true } [(0, .custom [8] true)] [] 2 (by decide) (by decide)
  revert this
  decide

/-- the slice `buffer[bufferRead:bufferSize]` of the replay branch is in range after ANY
sequence of reset / Read calls (no Go panic), not only those of the listener protocol -/
theorem sniffer_slice_in_range (src : Src) (ops : List SOp) :
    (ops.foldl Sniffer.step (Sniffer.new src)).sliceOk :=
  (List.foldlRecOn ops Sniffer.step (motive := WF) (WF.new src) fun _ h op _ => h.step op).slice

/-- for every sequence of `Write` (with any rate-limiter verdict) and `Flush` (timer or
explicit): socket ++ queue = everything written, in order, once; and after one more flush the
socket has everything and the queue is empty -/
theorem write_queue (ops : List WOp) :
    let s := ops.foldl WQ.step {}
    s.sock.flatten ++ s.queue = written ops ∧ s.flush.2.sock.flatten = written ops ∧ s.flush.2.queue = [] := by
  have h := WQ.run_inv ops {}
  have hf := WQ.flush_inv (ops.foldl WQ.step {})
  simp only [List.flatten_nil, List.nil_append] at h
  refine ⟨h, ?_, hf.2⟩
  have := hf.1
  rwa [hf.2, List.append_nil, h] at this

/-- at every moment: bytes returned ++ rest of the current message ++ payloads of the data
messages still to come = concatenated payloads of all binary/text messages; control frames,
empty messages, the chunking of gorilla's reader and the caller's buffer sizes do not matter -/
theorem ws_stream (frames : List Frame) (ns : List Nat) :
    let q := (Ws.mk none frames).reads ns
    cat q.1 ++ q.2.rest = payload frames :=
  Ws.loop.reads_left Ws.laws (s := Ws.mk none frames) trivial ns

/-- a reader that drains gets exactly the payload stream; an error only after its last byte -/
theorem ws_read (frames : List Frame) (after : List Nat) (d : Nat) (hd : 0 < d) :
    cat (wsHandover frames after d).1 ++ cat (wsHandover frames after d).2 = payload frames ∧
    errAtEnd (payload frames) [] ((wsHandover frames after d).1 ++ (wsHandover frames after d).2) = true :=
  Ws.loop.deliver Ws.laws (s := Ws.mk none frames) trivial after d hd
    (Ws.loop.forall_results (I := fun _ => True) (fun _ n => ⟨trivial, Ws.read_early _ n⟩) trivial after d _)

/-- one binary message per `Write`, carrying exactly the bytes written -/
theorem ws_write (ps : List Bytes) :
    wsWrites [] ps = ps.map (fun b => (Generated.wsBinaryMessage, b)) := by
  simpa using wsWrites_eq ps []

/-! ## non-vacuity -/

-- the broker's configuration (an HTTP-method prefix matcher, then MatchAny) on an MQTT CONNECT
-- read in pieces: the prefix matcher peeks 8 bytes and says no, MatchAny takes the connection;
-- the reader gets all 18 bytes
example :
    let src : Src := { chunks := [[0x10], [0x10, 0x00, 0x04], [0x4d, 0x51, 0x54, 0x54, 0x04, 0x02], [0x00, 0x3c, 0x00, 0x04, 0x74, 0x65, 0x73, 0x74]] }
    let ms : List (Nat × Matcher) := [(0, .pref [[0x47, 0x45, 0x54], [0x4f, 0x50, 0x54, 0x49, 0x4f, 0x4e, 0x53]]), (1, .any)]
    (serve (Sniffer.new src) ms).1 = some 1 ∧
    (serve (Sniffer.new src) ms).2.1.map cat = [[0x10, 0x10, 0x00, 0x04, 0x4d, 0x51, 0x54, 0x54], []] ∧
    cat (handover src ms [1, 2] 4).1 ++ cat (handover src ms [1, 2] 4).2 = src.stream := by
  decide

example : (serve (Sniffer.new { chunks := [[0x47, 0x45], [0x54, 0x20, 0x2f]] })
    [(0, .pref [[0x47, 0x45, 0x54], [0x4f, 0x50, 0x54, 0x49, 0x4f, 0x4e, 0x53]]), (1, .any)]).1 = some 0 := by
  decide

example : (([WOp.write false [1], .write true [2], .write false [3], .flush].foldl WQ.step {}).sock) = [[1], [2, 3]] := by
  decide

example : cat ((Ws.mk none [⟨2, ⟨[[1, 2], [3]], false⟩⟩, ⟨9, ⟨[[7]], false⟩⟩, ⟨1, ⟨[[4]], true⟩⟩]).reads [1, 5, 5, 5, 5]).1 = [1, 2, 3, 4] := by
  decide

end Emitter.C17
