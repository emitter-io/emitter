/-
  C20 — Licenses and key ciphers round-trip.
  The lemmas about base64 and the ciphers are in Emitter/Lemmas/Cipher.lean, those about the v1
  license layout in Emitter/Lemmas/License.lean.
-/
import Emitter.Lemmas.License
namespace Emitter.C20
open Emitter Emitter.Cipher Emitter.License

/-! ## regenerated facts (re-checked against /repo's constants on every run) -/

/-- `xteaSum` is `delta * rounds` (the comment in xtea.go says "should be") -/
theorem fact_xtea_sum : xteaSum = UInt32.ofNat xteaRounds * xteaDelta := xteaSum_eq

/-- the decode table built by `init()` maps exactly the 64 alphabet characters to their index
and every other byte value (all 192 of them) to the invalid marker -/
theorem fact_decode_table : ∀ c : Fin 256, decodeMap (UInt8.ofNat c.val) = decodeMapSpec (UInt8.ofNat c.val) :=
  fun _ => decodeMap_eq_spec _

/-- the alphabet has 64 distinct characters, none of them CR/LF or a padding '=' -/
theorem fact_alphabet : alphabet.length = 64 ∧ alphabet.Nodup ∧ (13 : UInt8) ∉ alphabet ∧ (10 : UInt8) ∉ alphabet
    ∧ (61 : UInt8) ∉ alphabet := ⟨rfl, alphabet_nodup, by decide, by decide, by decide⟩

/-! ## key ciphers -/

/-- Under each cipher, every 24-byte key encrypts to a 32-character string over the alphabet
that decrypts to the same key — for every XTEA key and every Salsa key/nonce. -/
theorem key_roundtrip (c : CipherSpec) (k : Bytes) (hk : k.length = 24) :
    ∃ e, encryptKey c k = .ok e ∧ e.length = 32 ∧ (∀ ch ∈ e, (decodeMap ch == 0xFF) = false) ∧
      decryptKey c e = .ok k :=
  ⟨_, encryptKey_eq c k hk, by rw [b64Encode_length, encryptRaw_length, hk], b64Encode_valid _, decryptKey_issued c hk⟩

/-- distinct keys give distinct strings -/
theorem encrypt_injective (c : CipherSpec) (k₁ k₂ : Bytes) (h₁ : k₁.length = 24) (h₂ : k₂.length = 24)
    (h : encryptKey c k₁ = encryptKey c k₂) : k₁ = k₂ := by
  rw [encryptKey_eq c k₁ h₁, encryptKey_eq c k₂ h₂] at h
  have := decryptKey_issued c h₁
  rw [Outcome.ok.inj h, decryptKey_issued c h₂] at this
  exact (Outcome.ok.inj this).symm

/-- strings that are not 32 valid characters are rejected with an error (never a panic, never a key) -/
theorem reject_invalid (c : CipherSpec) (s : Bytes)
    (h : s.length ≠ 32 ∨ ∃ ch ∈ s, (decodeMap ch == 0xFF) = true) : ∃ e, decryptKey c s = .err e := by
  unfold decryptKey
  by_cases hl : s.length = 32
  · obtain ⟨e, he⟩ := decodeKeyAux_err s 0 (by omega) (h.resolve_left (fun h => h hl))
    simp [hl, decodeKey, he]
  · simp [hl]

/-- decryption is total: any input yields a key or an error -/
theorem decrypt_total (c : CipherSpec) (s : Bytes) : (decryptKey c s).isPanic = false := decryptKey_nopanic c s

/-- v2 / v3 are XOR stream ciphers: the round trip holds for *every* keystream (so it does not
depend on the transcription of Salsa20), and for v3 for every salt-indexed family of keystreams. -/
theorem stream_roundtrip (ks bs : Bytes) : xorBytes (xorBytes bs ks) ks = bs := xorBytes_invol bs ks

theorem shuffle_roundtrip (ks : UInt8 → UInt8 → Bytes) (bs : Bytes) :
    shuffleCrypt ks (shuffleCrypt ks bs) = bs := shuffleCrypt_invol ks bs

/-- XTEA: deciphering a block inverts enciphering it, for every key and block -/
theorem xtea_block_roundtrip (k : XteaKey) (y z : UInt32) :
    decBlock k (encBlock k y z).1 (encBlock k y z).2 = (y, z) := decBlock_encBlock k y z

/-! non-vacuity: a concrete key under a concrete XTEA cipher -/
example : ∃ e, encryptKey (.xtea ⟨1, 2, 3, 4⟩) (List.replicate 24 7) = .ok e ∧ e.length = 32 ∧
    (∀ ch ∈ e, (decodeMap ch == 0xFF) = false) ∧ decryptKey (.xtea ⟨1, 2, 3, 4⟩) e = .ok (List.replicate 24 7) :=
  key_roundtrip (.xtea ⟨1, 2, 3, 4⟩) (List.replicate 24 7) (by simp)

/-! ## licenses -/

/-- `Parse` yields a license or an error for every string and every behaviour (including a
panic) of the external v2/v3 body decoder. -/
theorem parse_total (body : Nat → Bytes → Outcome V23) (data : Bytes) : (parse body data).isPanic = false := by
  unfold parse
  split <;> simp_all [Outcome.isPanic]

/-- a v1 license string parses back to the same license (generated licenses have `expires = 0`) -/
theorem v1_roundtrip (body : Nat → Bytes → Outcome V23) (l : V1) (hk : l.encKey.length = 16)
    (he : l.expires = 0) : parse body l.toString = .ok (.v1 l) :=
  v1_roundtrip_of body l hk (Or.inl he)

end Emitter.C20
