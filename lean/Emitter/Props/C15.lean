/-
  C15 — Stored messages survive broker restarts and crashes.
  Property-level statements; the lemmas are in Emitter/Lemmas/Store.lean (codec round trip: C19,
  Emitter/Lemmas/Message.lean).

  Reading guide. `KV` is the durable store (badger + file system + page cache) as a PARAMETER,
  `KV.Laws K` what is assumed of it (Model/Store.lean: `Update` returned ⇒ durable; a transaction
  is atomic under a kill; open / replay / close / flush / compaction / GC, finished or killed, lose
  and invent nothing; an iterator over a freshly opened directory yields exactly the unexpired
  durable entries in key order). `Run K z retain K.empty evs d` says the directory, empty at first,
  is `d` after the chronological history `evs` of events `acked m` (a `Store(m)` that returned),
  `died m` (the process was killed inside `Store(m)`, or it failed) and `maint` (everything else:
  clean stop, kill while idle / opening / closing, restart, background work) — any number of
  processes, any crash points. `query K z d now` is the history query of a fresh process at unix
  time `now`: open, iterate, decode; `foundOf retain m` the record it must show for `m`: id, channel,
  payload unchanged, ttl (`RetainedTTL` ↦ the configured retention), expiry = id time + ttl.
-/
import Emitter.Lemmas.Store
namespace Emitter.C15
open Emitter Emitter.Message Emitter.Store

/-! ## regenerated facts -/
theorem fact_consts : retainedTTL = 0xFFFFFFFF ∧ defaultRetain = 2592000 := by decide

/-- **C15 in one statement.** After ANY history (acknowledged stores, kills at arbitrary instants
inside a store call, clean stops, restarts — repeated) the history query of a fresh process
succeeds (the store reopens, the scan decodes) and
(1) returns every acknowledged message that is unexpired and was not overwritten by a later store
    of the same id, with identical id, channel, payload, ttl and expiry;
(2) returns nothing else: every record is a message handed to `Store` in this history, whole;
(3) for a message whose `Store` was cut by a kill: what is returned under its id is the whole
    message (or nothing);
(4) lists each id once, in key order. -/
theorem stored_messages_survive (K : KV) (L : K.Laws) (z : Zip) (hz : z.Ok) (retain : UInt32)
    (evs : List Ev) (d : K.Disk) (hr : Run K z retain K.empty evs d) (hok : ∀ m ∈ msgs evs, m.ok) (now : Nat) :
    ∃ res, query K z d now = .ok res ∧
      (∀ pre m post, evs = pre ++ .acked m :: post → (∀ ev ∈ post, ev.key? ≠ some m.id) →
        now < expiryOf retain m → foundOf retain m ∈ res) ∧
      (∀ f ∈ res, ∃ m, (.acked m ∈ evs ∨ .died m ∈ evs) ∧ f = foundOf retain m ∧ now < f.expiresAt) ∧
      (∀ pre m post, evs = pre ++ .died m :: post → (∀ ev ∈ pre, ev.key? ≠ some m.id) →
        (∀ ev ∈ post, ev.key? ≠ some m.id) → ∀ f ∈ res, f.msg.id = m.id → f = foundOf retain m) ∧
      (res.map (·.msg.id)).Pairwise (fun a b => bytesLt a b = true) :=
  survive L hz hr hok now

/-- durability at the level of the directory: the entry of an acknowledged store stays the durable
version of its key through everything that follows, until the same id is stored again -/
theorem acked_is_durable (K : KV) (L : K.Laws) (z : Zip) (retain : UInt32) (pre post : List Ev) (m : Msg)
    (d : K.Disk) (hr : Run K z retain K.empty (pre ++ .acked m :: post) d)
    (hlater : ∀ ev ∈ post, ev.key? ≠ some m.id) :
    ∃ e, entryOf z retain m = .ok e ∧ K.get d m.id = some e := acked_get L hr hlater

/-- a store cut by a kill leaves the whole entry or nothing under its key -/
theorem unacked_whole_or_absent (K : KV) (L : K.Laws) (z : Zip) (retain : UInt32) (pre post : List Ev) (m : Msg)
    (d : K.Disk) (hr : Run K z retain K.empty (pre ++ .died m :: post) d)
    (hpre : ∀ ev ∈ pre, ev.key? ≠ some m.id) (hpost : ∀ ev ∈ post, ev.key? ≠ some m.id) :
    K.get d m.id = none ∨ ∃ e, entryOf z retain m = .ok e ∧ K.get d m.id = some e := died_get L hr hpre hpost

/-- every durable entry was written, whole, by a `Store` call of the history -/
theorem no_invented_entry (K : KV) (L : K.Laws) (z : Zip) (retain : UInt32) (evs : List Ev) (d : K.Disk)
    (k : Bytes) (e : Entry) (hr : Run K z retain K.empty evs d) (hg : K.get d k = some e) :
    ∃ m ∈ msgs evs, entryOf z retain m = .ok e := reachable_origin L hr hg

/-- what `Store` writes and what `loadMessage` reads back: key = id; the value decodes to the
message with the retention substituted; `Store` panics exactly on ids shorter than 8 bytes -/
theorem store_entry (z : Zip) (hz : z.Ok) (retain : UInt32) (m : Msg) (hm : m.ok) (e : Entry) :
    (entryOf z retain m = .ok e ↔ 8 ≤ m.id.length ∧ e = ⟨m.id, z.enc (encodeMsg (storedMsg retain m)), expiryOf retain m⟩) ∧
    (entryOf z retain m = .ok e → loadMsg z e = .ok (storedMsg retain m)) :=
  ⟨entryOf_ok_iff z retain m e, fun h => loadMsg_entryOf hz hm h⟩

/-- expiry arithmetic: for an id `NewID` made at second `unix` the database holds `unix + ttl`
(the configured retention for a retained message) -/
theorem expiry (ssid : Ssid) (unix : Int) (seq uniq : UInt32) (id ch pl : Bytes) (ttl retain : UInt32)
    (h : newId ssid unix seq uniq = .ok id) (h0 : timeOffset ≤ unix) (h1 : unix - timeOffset < 4294967296) :
    (expiryOf retain ⟨id, ch, pl, ttl⟩ : Int) = unix + (if ttl = retainedTTL then retain else ttl).toNat := by
  have h2 : timeOffset = 1514764800 := rfl
  rw [expiryOf, storedMsg_eq, idTime_newId h h0 h1]
  show ((unix + ((if ttl = retainedTTL then retain else ttl).toNat : Int)).toNat : Int) = _
  omega

/-! ## "the store always reopens" is an assumption about badger, and it is false of badger v3.2103

In `KV` opening is total (`scan` is a function), so `stored_messages_survive` is the `…_partial`
theorem: it holds on every history in which every open succeeds. The full statement for the store
as found (`DirB`, Model/Store.lean) is refuted; the driver raises the flag
`C15.reopen-fails-once-after-kill` on exactly this branch (first open after a kill fails with
badger's "Create a new file"); repaired in /repo by 9b91b8b (a workaround in `SSD.Configure`), see known_findings.txt. -/

def AlwaysReopens : Prop := ∀ d : DirB, (d.open).1.isSome = true

theorem always_reopens_refuted : ¬ AlwaysReopens := fun h => absurd (h ⟨[], true⟩) (by decide)

/-- … it opens whenever no zero-length memtable file was left behind, with every entry -/
theorem always_reopens_partial (d : DirB) (h : d.zeroMem = false) : (d.open).1 = some d.entries := by
  unfold DirB.open; rw [h]; rfl

/-- … and in any case on the second attempt (the failed open re-initialises the file): this is
why one retry, or removing zero-length `.mem` files before `badger.Open`, repairs it -/
theorem reopens_on_second_try (d : DirB) : ((d.open).2.open).1 = some d.entries := by
  cases d with
  | mk e z => cases z <;> rfl

/-! ## non-vacuity: the laws have a model, and it is the one the driver executes -/

/-- the sorted-association-list store satisfies every law -/
theorem list_store_laws : listKV.Laws := listKV_laws

theorem identity_zip_ok : Zip.id.Ok := fun _ => rfl

/-- for every history and every choice of which in-flight writes reached the directory, the
executable list run (`exec`, what the driver computes) is a run of the protocol -/
theorem list_run (z : Zip) (retain : UInt32) (evs : List (Ev × Bool)) (d : List Entry)
    (h : ∀ x ∈ evs, ackOk z retain x) : Run listKV z retain d (evs.map (·.1)) (exec z retain d evs) := by
  induction evs generalizing d with
  | nil => exact .nil
  | cons x evs ih =>
    exact .cons (execEv_step d (h x (List.mem_cons_self ..)))
      (ih _ fun y hy => h y (List.mem_cons_of_mem _ hy))

/-- … hence the theorem applies to what the driver prints -/
theorem driver_answer (retain : UInt32) (evs : List (Ev × Bool)) (h : ∀ x ∈ evs, ackOk Zip.id retain x)
    (hok : ∀ m ∈ msgs (evs.map (·.1)), m.ok) (now : Nat) :
    ∃ res, query listKV Zip.id (exec Zip.id retain [] evs) now = .ok res ∧
      (∀ f ∈ res, ∃ m, (.acked m ∈ evs.map (·.1) ∨ .died m ∈ evs.map (·.1)) ∧ f = foundOf retain m ∧ now < f.expiresAt) := by
  obtain ⟨res, h1, _, h2, _⟩ := survive list_store_laws identity_zip_ok (list_run Zip.id retain evs [] h) hok now
  exact ⟨res, h1, h2⟩

/-- a concrete history: two acknowledged stores (one retained, one already expired), a restart, a
store cut by a kill that did not land, one that did -/
def mA : Msg := ⟨[0,0,0,3, 0x10,0,0,0, 255,255,255,155, 0,0,0,7, 0,0,0,1, 0,0,0,2], [0x61, 0x2f], [1, 2, 3], 0xFFFFFFFF⟩
def mB : Msg := ⟨[0,0,0,3, 0x10,0,0,1, 255,255,255,154, 0,0,0,7, 0,0,0,1, 0,0,0,2], [0x61, 0x2f], [], 5⟩
def mC : Msg := ⟨[0,0,0,3, 0x10,0,0,0, 255,255,255,153, 0,0,0,7, 0,0,0,1, 0,0,0,2], [0x61, 0x2f], [9], 100⟩
def mD : Msg := ⟨[0,0,0,2, 0x10,0,0,0, 255,255,255,152, 0,0,0,7, 0,0,0,1, 0,0,0,3], [0x62, 0x2f], [7, 7], 100⟩

example : query listKV Zip.id
    (exec Zip.id 3600 [] [(.acked mA, true), (.acked mB, true), (.maint, true), (.died mC, false), (.maint, true), (.died mD, true)])
    (expiryOf 3600 mB) = .ok [foundOf 3600 mD, foundOf 3600 mA] := by decide

example : (foundOf 3600 mA).msg.ttl = 3600 ∧ (foundOf 3600 mA).expiresAt = 1514764800 + 4026531839 + 3600 := by decide

example : entryOf Zip.id 3600 ⟨[1, 2, 3], [], [], 1⟩ = .panic "slice bounds out of range" := by decide

end Emitter.C15
