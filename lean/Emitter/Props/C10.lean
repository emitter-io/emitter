/-
  C10 — Concurrent delivery keeps packet framing and per-publisher order.
  The small-step system is in Emitter/Model/Delivery.lean.

  Quantification: `Reachable progs s` ranges over every state the system reaches from the initial
  state under ANY scheduler (which thread takes its next atomic step), ANY answers of the rate
  limiter, any number of threads (`Tid = Nat`, each with an arbitrary program of packets) and
  any number of steps.  A "thread" is any chain of `Write` calls ordered by happens-before: a
  publisher goroutine running `pubsub.Publish → Conn.Send`, the subscriber's own goroutine
  writing acknowledgements, or the flush timer.
-/
import Emitter.Lemmas.Delivery
import Emitter.Generated.Locks
namespace Emitter.C10
open Emitter Emitter.Delivery

/-! ## regenerated shape facts (tools/gofacts reads /repo on every run): the atomic steps of the
model are exactly these lock-bracketed regions -/

/-- `listener.Conn.Write` takes no lock itself; it calls, in this order of appearance,
`Limit`, `enqueue` (limited path), `Len`, `enqueue` + `Flush` (queue not empty), `socket.Write` -/
theorem fact_conn_write : Generated.lockConnWrite =
    ["recv.limit.Limit", "recv.enqueue", "recv.Len", "recv.enqueue", "recv.Flush", "recv.socket.Write"] := rfl

/-- `Flush` reads `Len()` outside the lock, then writes the queue to the socket and resets it
inside ONE `Lock … Unlock` region, writing before resetting -/
theorem fact_conn_flush : Generated.lockConnFlush =
    ["recv.Len", "recv.Lock", "recv.socket.Write", "recv.writer.Bytes", "recv.writer.Reset", "recv.Unlock"] := rfl

theorem fact_conn_len : Generated.lockConnLen = ["recv.RLock", "recv.writer.Len", "recv.RUnlock"] := rfl
theorem fact_conn_enqueue : Generated.lockConnEnqueue = ["recv.Lock", "recv.writer.Write", "recv.Unlock"] := rfl

/-- the WebSocket transport holds its mutex from before `NextWriter` until after `Close` -/
theorem fact_ws_write : Generated.lockWsWrite =
    ["recv.Lock", "defer recv.Unlock", "recv.socket.NextWriter", "w.Write", "w.Close"] := rfl

/-- broker level: `Conn.Send` makes one `EncodeTo` call and takes no lock and starts no goroutine;
`pubsub.Publish` calls `Send` on each subscriber synchronously (no `go` statement), so the order
of a publisher goroutine's `Write` calls on one subscriber is the order of its PUBLISH packets;
every one of the 14 `EncodeTo` methods hands the packet to the writer in exactly one `Write` -/
theorem fact_broker_shape :
    Generated.shapeBrokerSend = ["packet.EncodeTo"] ∧ Generated.shapePublish = ["subscriber.Send"] ∧
    Generated.shapeEncodeTo = ["Connect w.Write", "Connack w.Write", "Publish w.Write", "Puback w.Write",
      "Pubrec w.Write", "Pubrel w.Write", "Pubcomp w.Write", "Subscribe w.Write", "Suback w.Write",
      "Unsubscribe w.Write", "Unsuback w.Write", "Pingreq w.Write", "Pingresp w.Write", "Disconnect w.Write"] :=
  ⟨rfl, rfl, rfl⟩

/-- In every reachable state the bytes the socket has accepted are a concatenation of whole
packets, each of them a packet of the program of the thread it is attributed to. -/
theorem framing (progs : Tid → List Bytes) (hne : NonEmptyProgs progs) (s : State)
    (h : Reachable progs s) :
    ∃ items : List Item, s.stream = flat items ∧ ∀ x ∈ items, x.2 ∈ progs x.1 := by
  obtain ⟨sl, ql, inv⟩ := inv_reachable hne h
  exact ⟨sl, inv.stream, fun x hx => inv.mem_prog (List.mem_append_left _ (mem_proj (List.mem_append_left ql hx)))⟩

/-- If the packets are wire forms of well-formed MQTT packets, the subscriber's decoder (the
C16 model of `DecodePacket`, proved there to agree with MQTT 3.1.1) splits the stream of every
reachable state into exactly those packets, with nothing left over and no error. -/
theorem framing_mqtt (max : Nat) (progs : Tid → List Bytes) (hm : MqttProgs max progs) (s : State)
    (h : Reachable progs s) :
    ∃ pkts : List Mqtt.Packet, decodeAll max s.stream.length s.stream = .ok (pkts.map Mqtt.normal) ∧
      s.stream = (pkts.map Mqtt.encodeWire).flatten := by
  obtain ⟨items, hs, hmem⟩ := framing progs hm.nonEmpty s h
  obtain ⟨pkts, hp, hall⟩ := exists_map_eq (·.2) Mqtt.encodeWire
    (fun q => Mqtt.wellFormed q = true ∧ (Mqtt.parts q).2.2.length ≤ max) items
    (fun x hx => (hm x.1 x.2 (hmem x hx)).imp fun _ => and_assoc.mpr)
  have hflat : s.stream = (pkts.map Mqtt.encodeWire).flatten := by rw [hs, flat, hp]
  refine ⟨pkts, ?_, hflat⟩
  rw [hflat]
  exact decodeAll_encode max pkts hall _ (Nat.le_refl _)

/-- In every reachable state, for every thread `t`: its packets on the socket, then in the
queue, then the one inside an unfinished `Write` call, then the ones not yet written, are
together exactly its program — in order, each once. Hence what the subscriber has received from
`t` is always a prefix of what `t` published. -/
theorem publisher_order (progs : Tid → List Bytes) (hne : NonEmptyProgs progs) (s : State)
    (h : Reachable progs s) :
    ∃ sl ql : List Item, s.stream = flat sl ∧ s.queue = flat ql ∧
      ∀ t, proj t (sl ++ ql) ++ inflight (s.threads t) ++ (s.threads t).todo = progs t := by
  obtain ⟨sl, ql, inv⟩ := inv_reachable hne h
  exact ⟨sl, ql, inv.stream, inv.queue, fun t => by rw [inv.order t, inv.prog t]⟩

/-- When every thread has finished and the queue is empty, the socket has received an
interleaving of all programs: for every thread exactly its packets, in its order. -/
theorem no_loss (progs : Tid → List Bytes) (hne : NonEmptyProgs progs) (s : State)
    (h : Reachable progs s) (hq : Quiescent s) (he : s.queue = []) :
    ∃ sl : List Item, s.stream = flat sl ∧ ∀ t, proj t sl = progs t := by
  obtain ⟨sl, ql, inv⟩ := inv_reachable hne h
  have : ql = [] := flat_eq_nil inv.nonempty (by rw [← inv.queue]; exact he)
  subst this
  refine ⟨sl, inv.stream, fun t => ?_⟩
  have h1 := inv.order t
  have h2 := inv.prog t
  obtain ⟨hpc, htd⟩ := hq t
  simp only [inflight, hpc, List.append_nil] at h1
  rw [htd, List.append_nil] at h2
  rw [h1, h2]

/-- With finitely many publishers the count matches too: the received packet list is a
permutation of everything published (same packets per publisher, same total) that respects every
publisher's order. -/
theorem no_loss_count (progs : Tid → List Bytes) (hne : NonEmptyProgs progs) (n : Nat)
    (hfin : ∀ t, n ≤ t → progs t = []) (s : State)
    (h : Reachable progs s) (hq : Quiescent s) (he : s.queue = []) :
    ∃ sl : List Item, s.stream = flat sl ∧ (∀ t, proj t sl = progs t) ∧
      sl.length = total n (fun t => (progs t).length) := by
  obtain ⟨sl, hs, hp⟩ := no_loss progs hne s h hq he
  -- every packet received belongs to a publisher below `n`: the others published nothing
  have hown : ∀ x ∈ sl, x.1 < n := fun x hx => Nat.lt_of_not_le fun hle => by
    have hm := mem_proj hx
    rw [hp, hfin _ hle] at hm
    cases hm
  refine ⟨sl, hs, hp, ?_⟩
  rw [length_eq_total n sl hown]
  simp only [hp]

/-- … and one more `Flush()` (the next timer tick) always gets there: it can run, and leaves a
reachable quiescent state with an empty queue. -/
theorem final_flush (progs : Tid → List Bytes) (s : State) (h : Reachable progs s) (hq : Quiescent s) (t : Tid) :
    ∃ s', flushCall s t = some s' ∧ Reachable progs s' ∧ Quiescent s' ∧ s'.queue = [] := by
  obtain ⟨s', e, r, ht, he⟩ := flushCall_idle h (hq t).1
  exact ⟨s', e, r, fun u => by rw [ht]; exact hq u, he⟩

theorem no_loss_after_flush (progs : Tid → List Bytes) (hne : NonEmptyProgs progs) (s : State)
    (h : Reachable progs s) (hq : Quiescent s) (t : Tid) :
    ∃ s' sl, flushCall s t = some s' ∧ s'.stream = flat sl ∧ ∀ u, proj u sl = progs u := by
  obtain ⟨s', e, r, q, he⟩ := final_flush progs s h hq t
  obtain ⟨sl, hs, hp⟩ := no_loss progs hne s' r q he
  exact ⟨s', sl, e, hs, hp⟩

/-- every frame is exactly one packet, and each thread's frames are a prefix of its program in
order, each once — for every interleaving of the (mutex-atomic) `Write` calls -/
theorem ws_delivery (progs : Tid → List Bytes) (s : WsState) (h : WsReachable progs s) :
    ∃ items : List Item, s.frames = items.map (·.2) ∧
      ∀ t, proj t items ++ (s.threads t).todo = progs t := by
  obtain ⟨items, inv⟩ := ws_inv_reachable h
  exact ⟨items, inv.frames, fun t => by rw [inv.order t, inv.prog t]⟩

/-! ## non-vacuity: two publishers and the timer, all three paths of `Write` taken -/

def demo : Tid → List Bytes
  | 0 => [[0xc0, 0], [0xd0, 0]]
  | 1 => [[0xe0, 0]]
  | _ => []

def runActs (s : State) : List Action → Option State
  | [] => some s
  | a :: as => (step? s a).bind (runActs · as)

theorem runActs_reachable {progs : Tid → List Bytes} {s : State} (h : Reachable progs s) :
    ∀ (as : List Action) (s' : State), runActs s as = some s' → Reachable progs s' := by
  intro as
  induction as generalizing s with
  | nil =>
    intro s' e
    simp [runActs] at e
    subst e
    exact h
  | cons a as ih =>
    intro s' e
    simp only [runActs] at e
    cases hs : step? s a with
    | none => simp [hs] at e
    | some s1 =>
      rw [hs] at e
      exact ih (Reachable.step a h hs) s' e

/-- thread 0 is limited (queued), thread 1 is not and finds the queue non-empty (enqueue +
flush), thread 0 then writes directly while the timer (thread 2) runs an empty flush -/
def demoActs : List Action :=
  [.call 0 true, .call 1 false, .enqueue 0, .len 1, .enqueue 1, .tick 2, .len 1, .len 2, .flush 1,
   .call 0 false, .len 0, .flush 2, .sock 0]

example : (runActs (init demo) demoActs).map (fun s => (s.stream, s.queue)) =
    some ([0xc0, 0, 0xe0, 0, 0xd0, 0], []) := by decide +kernel

example : NonEmptyProgs demo := by
  intro t p hp
  match t, hp with
  | 0, hp =>
    simp [demo] at hp
    rcases hp with rfl | rfl <;> simp
  | 1, hp =>
    simp [demo] at hp
    subst hp
    simp
  | _ + 2, hp => simp [demo] at hp

end Emitter.C10
