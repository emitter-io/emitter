/-
  C18 — Presence reports who is subscribed (broker model; default matcher or any).
-/
import Emitter.Lemmas.Broker
import Emitter.Lemmas.BrokerHistory
namespace Emitter.C18
open Emitter Emitter.Trie Emitter.Security Emitter.Broker

/-- A presence status request lists exactly the live connections that would currently receive
a message published to the channel: the `who` list is the filter of the connections by this
condition (rendered with their usernames). -/
theorem status_exact (b : B) (h : Sync b) (ssid : Path) (c : Conn) (hc : c ∈ b.conns) :
    (c.alive && ((b.trie.root.lookup b.mode ssid).eraseDups).contains c.key) = true ↔
      c.alive = true ∧ receives b.mode c ssid := Broker.listed_iff b h ssid c hc

/-- exactly one 'subscribe' notification for each subscription a connection makes (none for a
repeated subscribe of the same filter) … -/
theorem subscribe_notifies_once (b : B) (c : Conn) (ssid : Path) (channel : Bytes) :
    (subscribeConn b c ssid channel).2 =
      if c.counters.any (·.ssid == ssid) then []
      else notify (subscribeConn b c ssid channel).1 "subscribe"
             { c with counters := c.counters ++ [⟨ssid, channel, 1⟩] } ssid channel :=
  Broker.subscribeConn_out b c ssid channel

/-- … and one 'unsubscribe' when it ends (by unsubscribing or by the connection going away:
`Close` runs `unsubscribeConn` for every counter); none for something not held -/
theorem unsubscribe_notifies_once (b : B) (c : Conn) (ssid : Path) (channel : Bytes)
    (h1 : ∀ ctr ∈ c.counters, ctr.count = 1) :
    (unsubscribeConn b c ssid channel).2 =
      if c.counters.any (·.ssid == ssid) then
        notify (unsubscribeConn b c ssid channel).1 "unsubscribe"
          { c with counters := c.counters.filter (·.ssid != ssid) } ssid channel
      else [] := Broker.unsubscribeConn_out b c ssid channel h1

/-- a notification reaches exactly the clients that asked for changes on that channel or on a
parent of it and have not cancelled (their presence subscription is an ordinary counter), and
they all get the same JSON packet on the presence topic.

The field text `f` is quantified once, outside the equivalence: there is ONE packet, and every
receiver gets it. With `∃ f, p = .json … f` inside the equivalence for a given `p` the statement would
be false from right to left, since any JSON text would then have to be delivered
(`Broker.notify_receivers_original_false`). -/
theorem notification_receivers (b : B) (h : Sync b) (event : String) (c : Conn) (ssid : Path) (channel : Bytes) :
    ∃ f, ∀ (n : String) (p : Pkt),
      (n, p) ∈ notify b event c ssid channel ↔
        p = .json (strBytes "emitter/presence/") f ∧
        ∃ w ∈ b.conns, w.name = n ∧ w.alive = true ∧ receives b.mode w (presenceSsid ssid) :=
  Broker.notify_receivers b h event c ssid channel

theorem sync_step (auth : Auth) (b : B) (name : String) (r : Req) (h : Sync b) :
    Sync (step auth b name r).1 := Broker.sync_step auth b name r h

/-- History level (specification: `Emitter/Spec/Subscriptions.lean`): after any well-formed
history, the connections a status request lists — those the subscription index returns for the
channel — are exactly the open connections holding in the set `A` of acknowledged, not yet
removed subscriptions a filter that matches the channel … -/
theorem status_history (auth : Auth) (b₀ : B) (h0 : Pristine b₀) (evs : List Spec.Ev)
    (hwf : Spec.wellFormed evs = true) (ssid : Path) (c : Conn) (hc : c ∈ (run auth b₀ evs).conns) :
    (c.alive && (((run auth b₀ evs).trie.root.lookup b₀.mode ssid).eraseDups).contains c.key) = true ↔
      c.name ∈ Spec.receivers b₀.mode (Spec.run auth (Spec.init b₀) evs) ssid none :=
  Broker.status_history auth b₀ h0 evs hwf ssid c hc

/-- … and a notification about `ssid` goes — as a multiset, once each, the same JSON packet —
to exactly the open connections holding in `A` a presence-change subscription
(`system :: presence :: contract :: levels`, added by a presence request with `changes = true`,
removed by one with `changes = false` or by the end of the connection) on the channel or on a
parent of it. -/
theorem notify_history (auth : Auth) (b₀ : B) (h0 : Pristine b₀) (evs : List Spec.Ev)
    (hwf : Spec.wellFormed evs = true) (event : String) (c : Conn) (ssid : Path) (channel : Bytes) :
    (notify (run auth b₀ evs) event c ssid channel).Perm
      ((Spec.receivers b₀.mode (Spec.run auth (Spec.init b₀) evs) (presenceSsid ssid) none).map
        (fun n => (n, Pkt.json (strBytes "emitter/presence/") (notifyFields event c channel)))) :=
  Broker.notify_history auth b₀ h0 evs hwf event c ssid channel

/-! non-vacuity: w1 watches `k/a/`, w2 watches it and cancels, c subscribes `k/a/` -/
def demoAuth : Auth := fun banned ch _ =>
  if banned.contains ch.key then none else if ch.key == [107] then some ⟨7, 0x3f⟩ else none

def demo : List Spec.Ev :=
  [.accept "w1" [1], .accept "w2" [2], .accept "c" [3],
   .req "w1" (.presence 1 [107] [97, 47] false (some true)),
   .req "w2" (.presence 2 [107] [97, 47] false (some true)),
   .req "w2" (.presence 3 [107] [97] false (some false)),
   .req "c" (.subscribe 4 [107, 47, 97, 47] 0)]

example : Spec.wellFormed demo = true := by decide +kernel
example : (Spec.run demoAuth (Spec.init {}) demo).A =
    [("w1", presenceSsid [7, 3238259379]), ("c", [7, 3238259379])] := by decide +kernel
/-- the watchers of `k/a/` after the history: w1 only -/
example : Spec.receivers .emitter (Spec.run demoAuth (Spec.init {}) demo) (presenceSsid [7, 3238259379]) none = ["w1"] := by
  decide +kernel
/-- who a status request on `k/a/` lists: c only -/
example : Spec.receivers .emitter (Spec.run demoAuth (Spec.init {}) demo) [7, 3238259379] none = ["c"] := by
  decide +kernel
/-- and the model's last step did notify w1, and only w1 -/
example : ((step demoAuth (run demoAuth {} (demo.take 6)) "c" (.subscribe 4 [107, 47, 97, 47] 0)).2.map Prod.fst) =
    ["w1", "c"] := by decide +kernel

end Emitter.C18
