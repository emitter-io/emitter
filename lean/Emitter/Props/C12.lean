/-
  C12 — A key cannot be altered into a more powerful one.
  The proofs are in Emitter/Lemmas/KeyTamper.lean and Emitter/Lemmas/Cipher.lean, the model of
  what a decrypted key grants and of `Service.Authorize` in Emitter/Model/KeyTamper.lean.

  STATUS.  "Without knowledge of the license secret" is a computational notion. What is decided here:

  * license v2 / v3 (XOR stream ciphers): the property is FALSE, for every secret, by one fixed
    modification that does not depend on the secret (`stream_not_resistant`, `escalation_write`,
    `stream_universal_key`).  Recorded findings C12.stream-malleable.v2 / .v3.
  * license v1 (XTEA, three independent 8-byte blocks): the property is FALSE for a holder of two
    issued keys with equal salt (`xtea_splice`, `xtea_splice_escalates`; recorded finding
    C12.xtea-block-splice).  For modifications of ONE key the structural facts are proved
    (`xtea_block_roundtrip`, `xtea_decrypt_injective`, `xtea_block2_local`, `xtea_block1_local`,
    `xtea_block2_grants`, `accept_requires_check_bytes`, `decryptKey_injective`).  That a
    secret-independent modification of blocks 0 / 1 hits the 10 check bytes only with negligible
    probability is the pseudo-random-permutation assumption on XTEA and is NOT proved (and cannot
    be stated as a ∀-statement over modifications: `unconditional_resistance_impossible`).
-/
import Emitter.Lemmas.KeyTamper
import Emitter.Props.Tie.Key
namespace Emitter.C12
open Emitter Emitter.Cipher Emitter.KeyTamper

/-! ## the property, as a statement about one cipher and one modification -/

/-- C12 for the license secret `cs` and the string modification `attack` (see the definition:
for every contract, clock, issued key, channel and permission, what `Service.Authorize` grants
the modified string it also grants the issued string). The full property is
"`NoEscalationBy cs attack` for every attack that does not depend on `cs`". -/
abbrev Property := @NoEscalationBy

/-! ## regenerated / literal facts -/

/-- the literal 1325880984 in `ValidateChannel` is the hash of the empty target (`#/`) -/
theorem fact_hash_empty : Hash.hashOf [] = hashEmpty := by decide

/-- `universalTail` carries that hash, all permission bits, no bit-path and no expiry -/
theorem fact_universal_tail :
    keyTarget (List.replicate 12 0 ++ universalTail) = hashEmpty ∧ keyPerms (List.replicate 12 0 ++ universalTail) = 0xFF ∧
    keyPath (List.replicate 12 0 ++ universalTail) = 0 ∧ keyExpire (List.replicate 12 0 ++ universalTail) = 0 :=
  universalTail_fields _ rfl

/-! ## license v2 / v3: XOR streams are malleable -/

/-- for EVERY keystream, every plaintext and every mask (all lengths): a mask XORed into the
ciphertext comes out XORed into the plaintext. Does not depend on the Salsa20 transcription. -/
theorem stream_malleable (p ks m : Bytes) : xorBytes (xorBytes (xorBytes p ks) m) ks = xorBytes p m :=
  xorBytes_mask p ks m

/-- v3 (`Shuffle.crypt`): the same for every salt-indexed family of keystreams and every mask
that is zero on the two salt bytes -/
theorem shuffle_malleable (ks : UInt8 → UInt8 → Bytes) (p m : Bytes) :
    shuffleCrypt ks (xorBytes (shuffleCrypt ks p) (0 :: 0 :: m)) = xorBytes p (0 :: 0 :: m) :=
  shuffleCrypt_mask ks p m

/-- at the level of key strings, for every v2 / v3 secret: base64-decode the issued string, XOR a
mask (zero on the salt) into the 24 bytes, re-encode — `DecryptKey` returns the issued key XOR the mask -/
theorem stream_malleable_key (cs : CipherSpec) (hs : isStream cs = true) (k m : Bytes) (hk : k.length = 24) :
    decryptKey cs (xorString (issued cs k) (0 :: 0 :: m)) = .ok (xorBytes k (0 :: 0 :: m)) := by
  rw [issued_xor cs hs]
  exact decryptKey_issued cs (by rw [xorBytes_length, hk])

/-- bytes 12..23 (bit-path, permissions, target hash, expiry — all known to the key's holder) can be
replaced by ANY 12 bytes with a mask computed from the old and the new values alone -/
theorem stream_rewrite_tail (cs : CipherSpec) (hs : isStream cs = true) (k new : Bytes) (hk : k.length = 24)
    (hn : new.length = 12) :
    decryptKey cs (xorString (issued cs k) (tailMask (k.drop 12) new)) = .ok (k.take 12 ++ new) :=
  KeyTamper.stream_rewrite_tail cs hs k new hk hn

/-- ANY key issued under the contract — expired, without permissions, for whatever target — becomes a
key that `Service.Authorize` accepts for every permission on every channel at every time -/
theorem stream_universal_key (cs : CipherSpec) (hs : isStream cs = true) (ct : Contract) (k : Bytes) (hk : k.length = 24)
    (hv : validate ct k = true) (hc : keyContract k = ct.id) (now : Int) (ch : Chan) (g : UInt8) (hn : ch.name ≠ []) :
    authorize cs ct now (xorString (issued cs k) (tailMask (k.drop 12) universalTail)) ch g = .ok true := by
  rw [issued_tail cs hs k universalTail hk rfl, authorize_issued cs ct now (by simp [hk, universalTail]),
    grants_universal ct now k hk ch g hv hc hn]

/-- the recorded finding: XOR 0x04 into cipher byte 15 (flip the low bit of character 20 of the key
string). Every key that grants anything on a channel but not Write comes back granting Write there
too, and everything it granted before. -/
theorem escalation_write (cs : CipherSpec) (hs : isStream cs = true) (ct : Contract) (now : Int) (k : Bytes)
    (hk : k.length = 24) (ch : Chan) (f : UInt8) (hf : grants ct now k ch f = true)
    (hw : keyPerms k &&& allowWrite = 0) :
    authorize cs ct now (issued cs k) ch allowWrite = .ok false ∧
    authorize cs ct now (xorString (issued cs k) (permMask allowWrite)) ch allowWrite = .ok true ∧
    ∀ g, authorize cs ct now (issued cs k) ch g = .ok true →
      authorize cs ct now (xorString (issued cs k) (permMask allowWrite)) ch g = .ok true :=
  KeyTamper.escalation_write cs hs ct now k hk ch f hf hw

/-- C12 REFUTED under license v2 and v3: one modification, chosen before the secret, escalates
under every secret -/
theorem stream_not_resistant :
    ∃ attack : Bytes → Bytes, ∀ cs, isStream cs = true → ¬ Property cs attack :=
  KeyTamper.stream_not_resistant

/-! ## every cipher -/

/-- quantifying over ALL functions of the key string is hopeless for any cipher (the function may
have the secret built in): this is why resistance under v1 is a computational assumption -/
theorem unconditional_resistance_impossible (cs : CipherSpec) : ∃ attack : Bytes → Bytes, ¬ Property cs attack := by
  refine ⟨fun _ => issued cs witnessStrong, fun hno => ?_⟩
  have hs : grants witnessContract 0 witnessStrong witnessChan allowWrite = true := by decide
  have hw : grants witnessContract 0 witnessWeak witnessChan allowWrite = false := by decide
  have := hno witnessContract 0 witnessWeak rfl witnessChan allowWrite (by rw [authorize_issued cs _ _ rfl, hs])
  rw [authorize_issued cs _ _ rfl, hw] at this
  cases this

/-- a string is granted anything only if it decrypts to a key carrying the contract's master id,
contract id and signature (10 check bytes), the permission asked for, and a live expiry -/
theorem accept_requires_check_bytes (cs : CipherSpec) (ct : Contract) (now : Int) (s : Bytes) (ch : Chan) (g : UInt8)
    (h : authorize cs ct now s ch g = .ok true) :
    ∃ k, decryptKey cs s = .ok k ∧ keyMaster k = ct.master ∧ keyContract k = ct.id ∧ keySignature k = ct.sign ∧
      hasPermission k g = true ∧ expired now k = false :=
  KeyTamper.accept_requires_check_bytes cs ct now s ch g h

/-- two different strings never decrypt to the same key (base64 and the three ciphers are
injective): every string other than the issued one is a DIFFERENT key -/
theorem decryptKey_injective (cs : CipherSpec) (s s' k : Bytes) (h : decryptKey cs s = .ok k)
    (h' : decryptKey cs s' = .ok k) : s = s' := by
  obtain ⟨hl, raw, hd, rfl⟩ := decryptKey_ok h
  obtain ⟨hl', raw', hd', he⟩ := decryptKey_ok h'
  have : raw = raw' := by rw [← encryptRaw_decryptRaw cs raw, he, encryptRaw_decryptRaw]
  subst this
  exact KeyTamper.base64_injective s s' raw hd hd' (by omega) (by omega)

theorem base64_injective (s s' r : Bytes) (h : decodeKey s = .ok r) (h' : decodeKey s' = .ok r)
    (h4 : s.length % 4 = 0) (h4' : s'.length % 4 = 0) : s = s' :=
  KeyTamper.base64_injective s s' r h h' h4 h4'

/-- `Service.Authorize` never panics, whatever bytes stand in the key position -/
theorem authorize_total (cs : CipherSpec) (ct : Contract) (now : Int) (s : Bytes) (ch : Chan) (g : UInt8) :
    (authorize cs ct now s ch g).isPanic = false := by
  cases hd : decryptKey cs s with
  | ok k => rw [authorize_of_decrypt ct now ch g hd]; rfl
  | err e => simp [authorize, hd, Outcome.isPanic]
  | panic w => have := decryptKey_nopanic cs s; rw [hd] at this; cases this

/-! ## license v1: XTEA, three independent blocks, salt whitening -/

/-- each block function is a bijection of the 2⁶⁴ blocks (both round trips) -/
theorem xtea_block_roundtrip (k : XteaKey) (y z : UInt32) :
    decBlock k (encBlock k y z).1 (encBlock k y z).2 = (y, z) ∧ encBlock k (decBlock k y z).1 (decBlock k y z).2 = (y, z) :=
  ⟨decBlock_encBlock k y z, encBlock_decBlock k y z⟩

/-- … hence a changed ciphertext is a changed key -/
theorem xtea_decrypt_injective (key : XteaKey) (r r' : Bytes) (h : decryptRaw (.xtea key) r = decryptRaw (.xtea key) r') :
    r = r' := by
  rw [← encryptRaw_decryptRaw (.xtea key) r, ← encryptRaw_decryptRaw (.xtea key) r', h]

/-- decryption block by block: blocks are deciphered independently; bytes 2.. are then XORed with the
two salt bytes, which come out of block 0 -/
theorem xtea_blocks (key : XteaKey) (B0 B1 B2 : Bytes) (h0 : B0.length = 8) (h1 : B1.length = 8) :
    decryptRaw (.xtea key) (B0 ++ B1 ++ B2)
      = whiten (mapBlocks (decBlock key) B0) ++
        whitenTail ((mapBlocks (decBlock key) B0).getD 0 0) ((mapBlocks (decBlock key) B0).getD 1 0) (mapBlocks (decBlock key) B1) ++
        whitenTail ((mapBlocks (decBlock key) B0).getD 0 0) ((mapBlocks (decBlock key) B0).getD 1 0) (mapBlocks (decBlock key) B2) :=
  xtea_decrypt_blocks key B0 B1 B2 h0 h1

/-- block locality (1): whatever replaces cipher block 2 leaves key bytes 0..15 alone -/
theorem xtea_block2_local (key : XteaKey) (B0 B1 B2 B2' : Bytes) (h0 : B0.length = 8) (h1 : B1.length = 8) :
    (decryptRaw (.xtea key) (B0 ++ B1 ++ B2')).take 16 = (decryptRaw (.xtea key) (B0 ++ B1 ++ B2)).take 16 :=
  xtea_prefix_local key (B0 ++ B1) B2 B2' (by simp [h0, h1])

/-- block locality (2): whatever replaces cipher block 1 leaves key bytes 0..7 and 16..23 alone -/
theorem xtea_block1_local (key : XteaKey) (B0 B1 B1' B2 : Bytes) (h0 : B0.length = 8) (h1 : B1.length = 8) (h1' : B1'.length = 8) :
    (decryptRaw (.xtea key) (B0 ++ B1' ++ B2)).take 8 = (decryptRaw (.xtea key) (B0 ++ B1 ++ B2)).take 8 ∧
    (decryptRaw (.xtea key) (B0 ++ B1' ++ B2)).drop 16 = (decryptRaw (.xtea key) (B0 ++ B1 ++ B2)).drop 16 := by
  rw [xtea_decrypt_blocks key B0 B1' B2 h0 h1', xtea_decrypt_blocks key B0 B1 B2 h0 h1]
  have hl0 : (whiten (mapBlocks (decBlock key) B0)).length = 8 := by rw [whiten_length, mapBlocks_length, h0]
  have hl (s0 s1 : UInt8) {B : Bytes} (h : B.length = 8) :
      (whiten (mapBlocks (decBlock key) B0) ++ whitenTail s0 s1 (mapBlocks (decBlock key) B)).length = 16 := by
    simp [hl0, whitenTail_length, mapBlocks_length, h]
  constructor
  · rw [List.append_assoc, List.append_assoc, List.take_left' hl0, List.take_left' hl0]
  · rw [List.drop_left' (hl _ _ h1'), List.drop_left' (hl _ _ h1)]

/-- a modification confined to cipher block 2 can change only target hash and expiry: whatever the
modified string is granted, the issued key carries that permission bit and is valid for the contract -/
theorem xtea_block2_grants (key : XteaKey) (ct : Contract) (now : Int) (k : Bytes) (hk : k.length = 24) (B2' : Bytes)
    (h2 : B2'.length = 8) (ch : Chan) (g : UInt8)
    (h : authorize (.xtea key) ct now (b64Encode ((encryptRaw (.xtea key) k).take 16 ++ B2')) ch g = .ok true) :
    hasPermission k g = true ∧ validate ct k = true ∧ keyContract k = ct.id := by
  obtain ⟨k', hd, _, ht⟩ := xtea_block2_confined key k hk B2' h2
  rw [authorize_of_decrypt ct now ch g hd] at h
  exact grants_of_take16 ct now k k' ch g ht (by simpa using h)

/-- cut-and-paste: two issued keys with equal first 8 bytes (salt, master id, contract id) — block 1 of
the second between blocks 0 and 2 of the first IS the string the broker would issue for the key with
signature / bit-path / permissions of the second and target hash / expiry of the first -/
theorem xtea_splice (key : XteaKey) (A M1 C1 M2 C2 : Bytes) (hA : A.length = 8) (hM1 : M1.length = 8)
    (hC1 : C1.length = 8) (hM2 : M2.length = 8) :
    spliceString (issued (.xtea key) (A ++ M1 ++ C1)) (issued (.xtea key) (A ++ M2 ++ C2)) = issued (.xtea key) (A ++ M2 ++ C1) :=
  KeyTamper.xtea_splice key A M1 C1 M2 C2 hA hM1 hC1 hM2

/-- C12 REFUTED under license v1 for the holder of two such keys, under EVERY XTEA key: the spliced
string may publish where neither issued key may -/
theorem xtea_splice_escalates (key : XteaKey) :
    authorize (.xtea key) witnessContract 0
      (spliceString (issued (.xtea key) (spliceA ++ spliceM1 ++ spliceC1)) (issued (.xtea key) (spliceA ++ spliceM2 ++ spliceC2)))
      spliceChan allowWrite = .ok true ∧
    authorize (.xtea key) witnessContract 0 (issued (.xtea key) (spliceA ++ spliceM1 ++ spliceC1)) spliceChan allowWrite = .ok false ∧
    authorize (.xtea key) witnessContract 0 (issued (.xtea key) (spliceA ++ spliceM2 ++ spliceC2)) spliceChan allowWrite = .ok false := by
  rw [KeyTamper.xtea_splice key spliceA spliceM1 spliceC1 spliceM2 spliceC2 rfl rfl rfl rfl,
    authorize_issued _ _ _ rfl, authorize_issued _ _ _ rfl, authorize_issued _ _ _ rfl]
  decide

/-! ## non-vacuity -/

/-- the hypotheses of `escalation_write` are satisfiable: a read-only key on `#/` -/
example : grants witnessContract 0 witnessWeak witnessChan allowRead = true ∧ keyPerms witnessWeak &&& allowWrite = 0 ∧
    witnessWeak.length = 24 := by decide

/-- … and the theorem then says, for a concrete v3 secret, that the tampered string may publish -/
example : authorize (.shuffle (List.replicate 32 1) (List.replicate 16 2)) witnessContract 0
    (xorString (issued (.shuffle (List.replicate 32 1) (List.replicate 16 2)) witnessWeak) (permMask allowWrite))
    witnessChan allowWrite = .ok true :=
  (escalation_write _ rfl witnessContract 0 witnessWeak rfl witnessChan allowRead (by decide) (by decide)).2.1

/-- the hypotheses of `stream_universal_key` are satisfiable by an EXPIRED key without permissions -/
example : validate witnessContract (witnessWeak.take 12 ++ [0, 0, 0, 0, 1, 2, 3, 4, 0, 0, 0, 1]) = true ∧
    keyContract (witnessWeak.take 12 ++ [0, 0, 0, 0, 1, 2, 3, 4, 0, 0, 0, 1]) = witnessContract.id ∧
    expired 1700000000 (witnessWeak.take 12 ++ [0, 0, 0, 0, 1, 2, 3, 4, 0, 0, 0, 1]) = true := by decide

/-- `xtea_block2_grants` is not vacuous: leaving block 2 as it is, is such a modification -/
example (key : XteaKey) : authorize (.xtea key) witnessContract 0
    (b64Encode ((encryptRaw (.xtea key) witnessWeak).take 16 ++ (encryptRaw (.xtea key) witnessWeak).drop 16)) witnessChan allowRead
    = .ok true := by
  rw [List.take_append_drop]
  exact (authorize_issued (.xtea key) witnessContract 0 rfl witnessChan allowRead).trans (by decide)

end Emitter.C12
