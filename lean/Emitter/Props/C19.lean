/-
  C19 — Message ids and frames encode losslessly; peer forwarding drops nothing.
  Property-level statements; the lemmas are in Emitter/Lemmas/Message.lean.
-/
import Emitter.Lemmas.Message
import Emitter.Props.Tie.Id
namespace Emitter.C19
open Emitter Emitter.Message

/-! ## regenerated facts -/
theorem fact_layout : fixed = 16 ∧ timeOffset = 1514764800 ∧ maxByteFrameSize = 10485760 := by decide

/-- an id gives back the second-resolution time it was created with (supported range:
from 2018 for 2^32 seconds) … -/
theorem id_time (ssid : Ssid) (unix : Int) (seq uniq : UInt32) (id : Bytes)
    (h : newId ssid unix seq uniq = .ok id) (h0 : timeOffset ≤ unix) (h1 : unix - timeOffset < 4294967296) :
    idTime id = unix := idTime_newId h h0 h1

/-- … and the channel ssid and contract -/
theorem id_ssid (ssid : Ssid) (unix : Int) (seq uniq : UInt32) (id : Bytes)
    (h : newId ssid unix seq uniq = .ok id) :
    idSsid id = ssid ∧ idContract id = ssid.getD 0 0 ∧ id.length = fixed + 4 * ssid.length :=
  have hw := newId_words h
  ⟨idSsid_newId h, hw.contract, hw.len⟩

/-- ids created later for a channel sort before earlier ones -/
theorem id_order (ssid : Ssid) (u₁ u₂ : Int) (q₁ q₂ n : UInt32) (a b : Bytes)
    (ha : newId ssid u₁ q₁ n = .ok a) (hb : newId ssid u₂ q₂ n = .ok b)
    (h0 : timeOffset ≤ u₁) (h1 : u₂ - timeOffset < 4294967296)
    (hlt : u₁ < u₂ ∨ (u₁ = u₂ ∧ q₁ < q₂)) : bytesLt b a = true :=
  newId_order ha hb <| by
    have e1 := relTime_toNat u₁ h0 (by omega)
    have e2 := relTime_toNat u₂ (by omega) h1
    rcases hlt with h | ⟨rfl, hq⟩
    · exact .inl (by omega)
    · exact .inr ⟨rfl, UInt32.lt_iff_toNat_lt.mp hq⟩

/-- no two ids are equal unless second, sequence number, nonce and ssid all are — in
particular never within 2^32 consecutive ids of one process -/
theorem id_injective (s₁ s₂ : Ssid) (u₁ u₂ : Int) (q₁ q₂ n₁ n₂ : UInt32) (id : Bytes)
    (h₁ : newId s₁ u₁ q₁ n₁ = .ok id) (h₂ : newId s₂ u₂ q₂ n₂ = .ok id) :
    relTime u₁ = relTime u₂ ∧ q₁ = q₂ ∧ n₁ = n₂ ∧ s₁ = s₂ := by
  have w₁ := newId_words h₁
  have w₂ := newId_words h₂
  refine ⟨(UInt32.sub_right_inj _).mp (w₁.time.symm.trans w₂.time),
    (UInt32.sub_right_inj _).mp (w₁.seqno.symm.trans w₂.seqno), w₁.nonce.symm.trans w₂.nonce, ?_⟩
  rw [← idSsid_newId h₁, ← idSsid_newId h₂]

/-- the order statement is false across the wrap of the 32-bit sequence counter (recorded
finding C19.sequence-wrap-order): witness -/
theorem id_order_wrap_refuted :
    ∃ a b, newId [1, 2] 1600000000 0xFFFFFFFF 7 = .ok a ∧ newId [1, 2] 1600000000 0 7 = .ok b ∧
      bytesLt b a = false := by
  refine ⟨_, _, rfl, rfl, ?_⟩
  decide

theorem uvarint_roundtrip (n : Nat) (h : n < 18446744073709551616) (rest : Bytes) :
    readUvarint (uvarint n ++ rest) = .ok (n, rest) := readUvarint_uvarint n h rest

/-- every message survives encode/decode unchanged (empty and maximal ids, channels,
payloads, ttl 0..2^32-1), whatever follows it in the buffer -/
theorem message_roundtrip (m : Msg) (h : m.ok) (rest : Bytes) :
    decodeMsg (encodeMsg m ++ rest) = .ok (m, rest) := decodeMsg_encodeMsg h rest

/-- every frame survives encode/decode unchanged -/
theorem frame_roundtrip (f : List Msg) (h : ∀ m ∈ f, m.ok) (hl : f.length ≤ maxSliceLen) :
    decodeFrame (encodeFrame f) = .ok f := by
  have := decodeFrame_encodeFrame h hl []
  rwa [List.append_nil] at this

theorem split_ok (f : List Msg) (max : Nat) :
    (split f max).1 ++ (split f max).2 = f ∧
    ((split f max).1 ≠ [] → sizeSum (split f max).1 < max) ∧
    ((split f max).1 = [] → f = [] ∨ ∃ m rest, f = m :: rest ∧ max ≤ msgSize m) ∧
    (∀ m rest, (split f max).2 = m :: rest → max ≤ sizeSum (split f max).1 + msgSize m) :=
  split_sound f max

theorem flush_ok (max : Nat) (f : List Msg) :
    (flushLoop max f.length f).1.flatten = f ∧ (flushLoop max f.length f).2 = [] ∧
    (∀ c ∈ (flushLoop max f.length f).1, c ≠ [] ∧ (sizeSum c < max ∨ ∃ m, c = [m] ∧ max ≤ msgSize m)) :=
  flushLoop_sound max f.length f (Nat.le_refl _)

/-- every message handed to an active peer is passed to the transport exactly once and in
order, for every interleaving of the (mutex-atomic) send and swap steps, every bound and every
message size; nothing is dropped -/
theorem peer_exactly_once (max : Nat) (ops : List PeerOp) :
    let p := ops.foldl (Peer.step max) {}
    p.sent.flatten ++ p.frame = accepted ops ∧ p.dropped = [] := by
  have := queue_exactly_once max ops {}
  simpa using this

/-! non-vacuity -/
example : ∃ id, newId [5, 6, 7] 1600000000 3 9 = .ok id := ⟨_, rfl⟩
example : accepted [.send true ⟨[], [], [1], 0⟩, .flush, .send false ⟨[], [], [2], 0⟩] = [⟨[], [], [1], 0⟩] := rfl

end Emitter.C19
