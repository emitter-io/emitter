/-
  C06 — History queries return exactly the stored, live, matching messages.
  Property-level statements; the lemmas are in Emitter/Lemmas/Storage.lean.

  Vocabulary.  `runPuts retain ps` is the store after the history `ps` of `Store` calls (ids made
  by `NewID`); `queryWith r ssid from until start limit now s` is `Storage.Query` on store `s` when
  the clock reads `now` (`r = false`: the continuation code as found, `r = true`: after
  notes/patches/C06-continuation-skip.patch; `Storage.query` is the one selected by
  `continuationRepaired`).  `mkQuery` is the `lookupQuery` it builds (a zero `until` means no upper
  end).  `Spec.answer` is the specification: filter the store (key order = most recent first) by
  `Spec.wanted` — same contract, filter a level-wise wildcard prefix of the channel, time in the
  window, not expired, strictly behind the continuation id — take the first `limit`, cut before the
  first message that would push the reply past the size cap (`Spec.firstFitting`).
-/
import Emitter.Lemmas.Storage
import Emitter.Props.Tie.Id
namespace Emitter.C06
open Emitter Emitter.Message Emitter.Storage

/-! ## regenerated facts -/
theorem fact_consts :
    replyCap = 65536 ∧ maxTime = 3029529600 ∧ fixed = 16 ∧ timeOffset = 1514764800 ∧
    wildcard = 1815237614 ∧ multiWildcard = 4285801373 ∧ retainedTTL = 4294967295 ∧
    maxTime < timeOffset + 4294967296 := by decide

/-- after every history of stores the entries are in strictly increasing key order (one entry
per id) and every key is a `NewID` id carrying its message -/
theorem store_invariant (retain : UInt32) (ps : List Put) :
    StrictSorted (runPuts retain ps) ∧ ∀ e ∈ runPuts retain ps, WF e := runPuts_inv retain ps

/-- nothing is in the store that was not put there: every entry is the entry of a put of the
history (its id, channel, payload, ttl with the retained marker resolved, expiry = time + ttl) -/
theorem store_contents (retain : UInt32) (ps : List Put) (e : Entry) (h : e ∈ runPuts retain ps) :
    ∃ p ∈ ps, ∃ id, newId p.ssid p.unix p.seq p.uniq = .ok id ∧ e = p.entry retain id :=
  mem_runPuts h

/-- L2: entries earlier in key order have a smaller prefix word, or the same prefix and a
time at least as recent: byte order of ids = (prefix, time descending, …) -/
theorem key_order (a b : Bytes) (ha : 8 ≤ a.length) (hb : 8 ≤ b.length) (h : bytesLt a b = true) :
    (word a 0).toNat < (word b 0).toNat ∨ (word a 0 = word b 0 ∧ idTime b ≤ idTime a) :=
  words_of_bytesLt ha hb h

/-- **query_exact.** For every history of stores, every clock reading and every query whose
first channel level is literal (`Query.ok`: ssid of at least two words, limit ≥ 0, window end
inside the 32-bit id time range), with no continuation id or one that has this query's key prefix
— as every id returned by an earlier page has — and, for the code as found (`r = false`), is still live
(`StartOk`): the answer is exactly the specification's, ordered by non-decreasing time. Holds for
contracts and channels that collide in the 32-bit key prefix, any number of messages per second,
any ttl, any limit, both providers (same code). -/
theorem query_exact (r : Bool) (retain : UInt32) (ps : List Put) (ssid : Ssid) (f u : Int) (start : Bytes)
    (limit now : Int) (hq : (mkQuery ssid f u start limit).ok)
    (hst : StartOk r (mkQuery ssid f u start limit) now (runPuts retain ps)) :
    queryWith r ssid f u start limit now (runPuts retain ps) =
      .ok (sortByTime (Spec.answer (ask (mkQuery ssid f u start limit)) now (runPuts retain ps))) :=
  queryWith_exact (runPuts_inv retain ps) hq hst

/-- the specification's answer is a prefix of the wanted entries (most recent first), at most
`limit` long and within the size cap … -/
theorem answer_shape (limit : Nat) (l : List Entry) :
    Spec.firstFitting limit replyCap 0 0 l <+: l ∧
    (Spec.firstFitting limit replyCap 0 0 l).length ≤ limit ∧
    bytesOf (Spec.firstFitting limit replyCap 0 0 l) ≤ replyCap := by
  obtain ⟨h1, h2, h3⟩ := firstFitting_shape limit replyCap 0 0 l
  exact ⟨h1, h2 (Nat.zero_le _), by have := h3 (Nat.zero_le _); omega⟩

/-- … and when the `limit` most recent wanted entries fit the cap it is exactly those -/
theorem answer_last_n (limit : Nat) (l : List Entry) (h : bytesOf (l.take limit) ≤ replyCap) :
    Spec.firstFitting limit replyCap 0 0 l = l.take limit :=
  firstFitting_take limit replyCap l limit 0 0 rfl (by simpa using h)

/-- the sort is a permutation ordered by non-decreasing time -/
theorem sort_perm (l : List Msg) : (sortByTime l).Perm l ∧
    (sortByTime l).Pairwise (fun a b => idTime a.id ≤ idTime b.id) :=
  ⟨sortByTime_perm l, sortByTime_sorted l⟩

/-! ## soundness and tenant isolation (no side conditions on window, wildcards or continuation id) -/

/-- every returned message is the message of a stored entry, is not expired, lies under the
filter level by level and inside the window -/
theorem query_sound (r : Bool) (retain : UInt32) (ps : List Put) (ssid : Ssid) (f u : Int) (start : Bytes)
    (limit now : Int) (out : List Msg)
    (h : queryWith r ssid f u start limit now (runPuts retain ps) = .ok out) :
    ∀ m ∈ out, ∃ e ∈ runPuts retain ps, e.msg = m ∧ m.id = e.key ∧ live now e = true ∧
      levelsMatch ssid (idSsid m.id) = true ∧ f ≤ idTime m.id ∧ idTime m.id ≤ (window f u).2 :=
  fun m hm => by
    obtain ⟨e, he⟩ := queryWith_mem (runPuts_inv retain ps) h hm
    rw [he.id]
    exact ⟨e, he.mem, he.msg, rfl, he.live, (matchE_fields he.wf he.accepted).2⟩

/-- **isolation.** Every returned message belongs to the querying contract — for every pair of
contracts and channels, including those whose `contract ⊕ first level` prefixes are equal —
unless the contract id *and* the first level are both wildcard hashes. -/
theorem isolation (r : Bool) (retain : UInt32) (ps : List Put) (ssid : Ssid) (f u : Int) (start : Bytes)
    (limit now : Int) (h2 : 2 ≤ ssid.length)
    (hwild : ¬ (isWild (ssid.getD 0 0) = true ∧ isWild (ssid.getD 1 0) = true)) (out : List Msg)
    (h : queryWith r ssid f u start limit now (runPuts retain ps) = .ok out) :
    ∀ m ∈ out, idContract m.id = ssid.getD 0 0 :=
  fun m hm => by
    obtain ⟨e, he⟩ := queryWith_mem (runPuts_inv retain ps) h hm
    rw [he.id]
    exact matchE_contract he.wf h2 hwild he.accepted

/-- the full statement (no exception for wildcard contract ids) … -/
def IsolationFull : Prop :=
  ∀ (retain : UInt32) (ps : List Put) (ssid : Ssid) (f u : Int) (start : Bytes) (limit now : Int) (out : List Msg),
    2 ≤ ssid.length → lookupWith false (mkQuery ssid f u start limit) now (runPuts retain ps) = .ok out →
    ∀ m ∈ out, idContract m.id = ssid.getD 0 0

/-- … is false of the code (recorded finding C06.wildcard-contract-id): a contract whose id is
the hash of `+`, asking with a first-level wildcard, is handed a message of contract 7 -/
theorem isolation_refuted : ¬ IsolationFull := by
  intro h
  have := h 60 [⟨[7, 7, 5], 1600000000, 1, 9, [], [], 1000⟩] [wildcard, wildcard] 0 0 [] 10 1600000001 _
    (by decide) rfl
  revert this
  decide

/-- every message of a continuation page is strictly behind the continuation id in key order
(both code variants, any id) … -/
theorem continuation_after (r : Bool) (retain : UInt32) (ps : List Put) (ssid : Ssid) (f u : Int) (start : Bytes)
    (limit now : Int) (hne : start ≠ []) (out : List Msg)
    (h : queryWith r ssid f u start limit now (runPuts retain ps) = .ok out) :
    ∀ m ∈ out, bytesLt start m.id = true :=
  fun m hm => by
    obtain ⟨_, he⟩ := queryWith_mem (runPuts_inv retain ps) h hm
    exact he.behind hne

/-- … hence a page continued from the last id of an earlier page (or any id not before its
messages) shares no message with it — whatever was stored or expired in between -/
theorem pages_disjoint (r : Bool) (retain : UInt32) (ps ps' : List Put) (ssid ssid' : Ssid) (f u f' u' : Int)
    (start x : Bytes) (limit limit' now now' : Int) (page₁ page₂ : List Msg) (hne : x ≠ [])
    (_h₁ : queryWith r ssid f u start limit now (runPuts retain ps) = .ok page₁)
    (hx : ∀ m ∈ page₁, bytesLt x m.id = false)
    (h₂ : queryWith r ssid' f' u' x limit' now' (runPuts retain (ps ++ ps')) = .ok page₂) :
    ∀ m₁ ∈ page₁, ∀ m₂ ∈ page₂, m₁.id ≠ m₂.id := by
  intro m₁ h₁ m₂ hm₂ he
  have := continuation_after r retain (ps ++ ps') ssid' f' u' x limit' now' hne page₂ h₂ m₂ hm₂
  rw [← he, hx m₁ h₁] at this
  cases this

/-- exactness of continuation pages is `query_exact` with `StartOk`: for the code as found the
continuation id must still be live. The statement without that proviso … -/
def ContinuationExactFull (r : Bool) : Prop :=
  ∀ (retain : UInt32) (ps : List Put) (ssid : Ssid) (f u : Int) (start : Bytes) (limit now : Int),
    (mkQuery ssid f u start limit).ok → 8 ≤ start.length → word start 0 = ssid.getD 0 0 ^^^ ssid.getD 1 0 →
    lookupWith r (mkQuery ssid f u start limit) now (runPuts retain ps) =
      .ok (Spec.answer (ask (mkQuery ssid f u start limit)) now (runPuts retain ps))

/-- … holds for the repaired code … -/
theorem continuation_exact_repaired : ContinuationExactFull true := by
  intro retain ps ssid f u start limit now hq h8 hp
  exact lookupWith_exact (runPuts_inv retain ps) hq (Or.inr ⟨h8, hp, Or.inl rfl⟩)

/-- … and is false of the code as found (finding C06.continuation-start-not-live, repaired in /repo by
0315e74): when the continuation id has expired the step behind the seek position skips a live message -/
theorem continuation_exact_refuted : ¬ ContinuationExactFull false := by
  intro h
  have := h 60 [⟨[1, 2], 1600000010, 1, 7, [], [], 1⟩, ⟨[1, 2], 1600000009, 2, 7, [], [], 1000⟩] [1, 2] 0 0
    [0, 0, 0, 3, 0xfa, 0xeb, 0x69, 0xf5, 0xff, 0xff, 0xff, 0xfe, 0, 0, 0, 7, 0, 0, 0, 1, 0, 0, 0, 2] 10 1600000100
    (by decide) (by decide) (by decide)
  revert this
  decide

theorem limit_zero (r : Bool) (retain : UInt32) (ps : List Put) (ssid : Ssid) (f u : Int) (start : Bytes)
    (now : Int) (out : List Msg) (h : queryWith r ssid f u start 0 now (runPuts retain ps) = .ok out) :
    out = [] := by
  have := queryWith_length h
  exact List.eq_nil_of_length_eq_zero (by omega)

/-- never more than `limit` messages, whatever the limit (the allocation sized by `limit` is C09) -/
theorem limit_bound (r : Bool) (retain : UInt32) (ps : List Put) (ssid : Ssid) (f u : Int) (start : Bytes)
    (limit now : Int) (out : List Msg)
    (h : queryWith r ssid f u start limit now (runPuts retain ps) = .ok out) : (out.length : Int) ≤ limit :=
  queryWith_length h

/-- the answer is ordered by non-decreasing time -/
theorem query_ordered (r : Bool) (retain : UInt32) (ps : List Put) (ssid : Ssid) (f u : Int) (start : Bytes)
    (limit now : Int) (out : List Msg)
    (h : queryWith r ssid f u start limit now (runPuts retain ps) = .ok out) :
    out.Pairwise (fun a b => idTime a.id ≤ idTime b.id) :=
  queryWith_sorted h

/-- `Frame.Limit(n)` (the merge step for answers gathered from the cluster): the last `n` of the
frame sorted by non-decreasing time -/
theorem frame_limit (n : Int) (f : List Msg) (hn : 0 ≤ n) :
    ∃ r, frameLimit n f = .ok r ∧ r <:+ sortByTime f ∧ r.length = min n.toNat f.length ∧
      r.Pairwise (fun a b => idTime a.id ≤ idTime b.id) :=
  ⟨_, frameLimit_eq n f hn, List.drop_suffix _ _,
    by rw [List.length_drop, (sortByTime_perm f).length_eq]; omega,
    (sortByTime_sorted f).sublist (List.drop_sublist _ _)⟩

/-! ## non-vacuity -/

/-- two contracts whose channels collide in the key prefix (1⊕6 = 2⊕5), three messages in one
second, one expired: the query of contract 1 gets its two live messages, the later one first -/
example :
    (Spec.answer (ask (mkQuery [1, 6] 0 0 [] 10)) 1600000005
      (runPuts 60 [⟨[1, 6], 1600000000, 1, 9, [97], [1], 1000⟩, ⟨[2, 5], 1600000000, 2, 9, [98], [2], 1000⟩,
                   ⟨[1, 6, 8], 1600000000, 3, 9, [99], [3], 1000⟩, ⟨[1, 6], 1600000000, 4, 9, [100], [4], 2⟩])).map
      (·.payload) = [[3], [1]] := by decide

example : (mkQuery [1, 6] 0 0 [] 10).ok := by decide
example : StartOk false (mkQuery [1, 6] 0 0 [] 10) 0 [] := Or.inl rfl

end Emitter.C06
