/-
  C14 — Banning a key takes effect immediately and survives restarts.
  Statements over the keyban / authorize model and the durable set model; proofs in
  Emitter/Lemmas/Keys.lean and Emitter/Lemmas/Lww.lean.
-/
import Emitter.Lemmas.Keys
import Emitter.Lemmas.Lww
namespace Emitter.C14
open Emitter Emitter.Security Emitter.Lww

/-- From the moment a key-ban request is acknowledged, every operation presenting the banned
key is refused … -/
theorem ban_immediate (e : Env) (secret target : Bytes) (h : (keyban e secret target true).2 = 200)
    (ch : Channel) (hk : ch.key = target) (perm : UInt8) :
    authorize { e with banned := (keyban e secret target true).1 } ch perm = none := by
  apply banned_refused
  simpa [hk] using (keyban_mem_iff e secret target true h).2 rfl

/-- … and from the moment an unban is acknowledged the key works again (it is decided by the
key alone) … -/
theorem unban_immediate (e : Env) (secret target : Bytes) (h : (keyban e secret target false).2 = 200)
    (ch : Channel) (hk : ch.key = target) (perm : UInt8) :
    authorize { e with banned := (keyban e secret target false).1 } ch perm = authorize { e with banned := [] } ch perm := by
  apply authorize_not_banned
  rw [hk]; exact fun hm => Bool.noConfusion ((keyban_mem_iff e secret target false h).1 hm)

/-- … for any sequence of toggles, rapid ones included: the last acknowledged one wins. -/
theorem toggles (e : Env) (secret target : Bytes) (ts : List Bool) (last : Bool)
    (hok : ∀ b (e' : Env), e'.cipher = e.cipher → e'.now = e.now → (keyban e' secret target b).2 = 200) :
    let final := (ts ++ [last]).foldl (fun bn w => (keyban { e with banned := bn } secret target w).1) e.banned
    (target ∈ final ↔ last = true) := by
  intro final
  -- whatever the earlier toggles left, the last step is one acknowledged request
  simp only [final, List.foldl_append, List.foldl_cons, List.foldl_nil]
  exact keyban_mem_iff _ secret target last (hok last _ rfl rfl)

theorem others_unaffected (e : Env) (secret target other : Bytes) (want : Bool) (hne : other ≠ target) :
    (other ∈ (keyban e secret target want).1 ↔ other ∈ e.banned) := by
  rcases keyban_cases e secret target want with ⟨_, hb⟩ | ⟨-, hk⟩
  · rw [hb]
  · rw [hk]
    cases want <;> cases hc : e.banned.contains target <;> simp [hne]

theorem refused_request_changes_nothing (e : Env) (secret target : Bytes) (want : Bool)
    (h : (keyban e secret target want).2 ≠ 200) : (keyban e secret target want).1 = e.banned := by
  rcases keyban_cases e secret target want with ⟨_, hb⟩ | ⟨-, hk⟩
  · exact hb
  · exfalso; apply h; rw [hk]
    cases want <;> cases hc : e.banned.contains target <;> simp

theorem only_master_of_same_contract (e : Env) (secret target : Bytes) (want : Bool) (h : (keyban e secret target want).2 = 200) :
    ∃ sk tk, e.decrypt secret = some sk ∧ sk.isMaster = true ∧ sk.isExpired e.now = false ∧
      e.decrypt target = some tk ∧ tk.contract = sk.contract := by
  rcases keyban_cases e secret target want with ⟨h401, _⟩ | ⟨hm, _⟩
  · rw [h401] at h; exact absurd h (by decide)
  · exact hm

/-- The durable set behind the ban list answers `Has` from what is stored, after any sequence
of add / del / merge / has (the read cache is coherent: D6 repair) … -/
theorem cache_coherent_step (d : Durable) (k : Bytes) (now : Int) (p : Bytes) (r : Map) (h : d.coherent) :
    (d.add k now p).coherent ∧ (d.del k now).coherent ∧ (d.merge r).1.coherent ∧ (d.fetch k).2.coherent :=
  ⟨coherent_add d k now p h, coherent_del d k now h, coherent_merge d r h, coherent_fetch d k h⟩

theorem has_is_stored (d : Durable) (k : Bytes) (h : d.coherent) :
    (d.has k).1 = (get d.db k).isAdded ∧ (d.has k).2.db = d.db := durable_has_truth d k h

/-- … a ban that was acknowledged is still in force after the broker restarts on the same
state directory (the store is kept, the cache starts empty) … -/
theorem ban_restart (d : Durable) (k : Bytes) :
    d.restart.coherent ∧ (d.restart.has k).1 = (get d.db k).isAdded := by
  have hc : d.restart.coherent := fun k v h => absurd h (by simp [Durable.restart])
  exact ⟨hc, (durable_has_truth d.restart k hc).1⟩

/-- … and takes effect on every other broker once the gossip carrying it has been merged there,
whether or not that broker had looked the key up before. -/
theorem ban_remote (d : Durable) (hc : d.coherent) (hn : NonNeg d.db) (k : Bytes) (t : Int) (p : Bytes)
    (ht : 0 < t) (hnew : (get d.db k).del ≤ t) :
    ((d.merge [(k, ⟨t, 0, p⟩)]).1.has k).1 = true := by
  rw [(durable_has_truth _ k (coherent_merge d _ hc)).1, (durable_merge_refines d _).1, isAdded_iff]
  -- the merged entry has add time `max (old add) t` and delete time `max (old del) 0`
  have h := tget_merge d.db [(k, ⟨t, 0, p⟩)] hn (nodup_singleton k _) k
  rw [tget_cons, if_pos rfl] at h
  unfold tget tmax at h
  simp only [Prod.mk.injEq] at h
  omega

end Emitter.C14
