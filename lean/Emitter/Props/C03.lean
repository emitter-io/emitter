/-
  C03 — Channel keys authorize exactly what they were issued for.
  The lemmas are in Emitter/Lemmas/Security.lean; the refusal corollaries of `authorize_iff` are
  proved here.
-/
import Emitter.Lemmas.Security
import Emitter.Props.Tie.Key
namespace Emitter.C03
open Emitter Emitter.Security Emitter.Spec

/-! ## regenerated facts: the permission bits -/
theorem fact_permissions :
    [permMaster, permRead, permWrite, permStore, permLoad, permPresence, permExtend, permExecute]
      = [1, 2, 4, 8, 16, 32, 64, 128] ∧ Generated.secAllowAll = 254 := by decide

/-- An operation is permitted if and only if the presented key decrypts under the broker's
license, is not banned, has not expired, belongs to the allowed contract with the same
signature and master id, carries the permission the operation needs, and its target
validates the channel. -/
theorem authorize_iff (e : Env) (ch : Channel) (perm : UInt8) (k : Key) :
    authorize e ch perm = some k ↔
      ch.ctype ≠ chInvalid ∧ e.banned.contains ch.key = false ∧ e.decrypt ch.key = some k ∧
      k.isExpired e.now = false ∧ e.contractOk k = true ∧ k.hasPermission perm = true ∧
      k.validateChannel ch = true := Security.authorize_iff e ch perm k

/-- A key of one contract is never accepted for another. -/
theorem contract_isolation (e : Env) (ch : Channel) (perm : UInt8) (k : Key)
    (hd : e.decrypt ch.key = some k)
    (hm : k.contract ≠ e.contractId ∨ k.signature ≠ e.signature ∨ k.master ≠ e.masterId) :
    authorize e ch perm = none := Security.contract_isolation e ch perm k hd hm

theorem banned_refused (e : Env) (ch : Channel) (perm : UInt8) (h : e.banned.contains ch.key = true) :
    authorize e ch perm = none := Security.banned_refused e ch perm h

/-! The next three: if a key `k'` came back, `authorize_iff` says it is the decrypted key and passes
the check the hypothesis says it fails. -/

theorem expired_refused (e : Env) (ch : Channel) (perm : UInt8) (k : Key)
    (hd : e.decrypt ch.key = some k) (h : k.isExpired e.now = true) : authorize e ch perm = none := by
  refine Option.eq_none_iff_forall_ne_some.2 fun k' h' => ?_
  obtain ⟨_, _, hd', he, _⟩ := (authorize_iff e ch perm k').1 h'
  rw [hd] at hd'; cases hd'
  rw [h] at he; cases he

theorem permission_required (e : Env) (ch : Channel) (perm : UInt8) (k : Key)
    (hd : e.decrypt ch.key = some k) (h : k.hasPermission perm = false) : authorize e ch perm = none := by
  refine Option.eq_none_iff_forall_ne_some.2 fun k' h' => ?_
  obtain ⟨_, _, hd', _, _, hp, _⟩ := (authorize_iff e ch perm k').1 h'
  rw [hd] at hd'; cases hd'
  rw [h] at hp; cases hp

theorem undecryptable_refused (e : Env) (ch : Channel) (perm : UInt8) (h : e.decrypt ch.key = none) :
    authorize e ch perm = none := by
  refine Option.eq_none_iff_forall_ne_some.2 fun k' h' => ?_
  obtain ⟨_, _, hd, _⟩ := (authorize_iff e ch perm k').1 h'
  rw [h] at hd; cases hd

/-- The target validates the channel exactly when it covers it: equal levels where the target
has literals, any level where it has '+', the same depth for exact targets and at least that
depth for '#/' targets, wildcard levels of the request accepted only where the target is
wildcard or beyond its depth — on every target the key format can express (last level before
an optional '#' literal, or an exact all-'+' target), the compared 32-bit hashes not colliding.
The targets excluded by `hsup` are the recorded findings C03.target-trailing-plus and
C03.target-plus-hash (under-permission).
Two further hypotheses are needed:
`hrh` — the last level of the request is not itself "#": the code cannot tell such a level from
the trailing wildcard marker, and without it the statement is false (exact target `+/`, request
levels `["#"]` with `rw = false`: refused by the code, covered by the spec);
`hcolp` — for an exact target made of '+' levels only, no literal bit is set, the code takes the
request's own depth as `maxDepth`, and the depth check is left to comparing the hash of
"+/+/…/+" (request depth) with the target hash; `hcol` speaks only of strings of the target's
depth, so that one further pair is assumed not to collide. -/
theorem validate_covers (k : Key) (tp : List Bytes) (tw : Bool) (rp : List Bytes) (rw : Bool) (ch : Channel)
    (hpath : k.targetPath = pathOf tp tw) (hhash : k.target = Hash.hashOf (joinSlash tp))
    (hch : ch.channel = chanOf rp rw)
    (htw : ∀ p ∈ tp, levelWf p) (hrw : ∀ p ∈ rp, levelWf p) (hrne : rp ≠ [])
    (hlen : tp.length ≤ 23) (hnh : hashSym ∉ tp)
    (hsup : tp ≠ [] ∧ (tp.getLast? ≠ some plus ∨ (tw = false ∧ ∀ p ∈ tp, p = plus)))
    (hcol : ∀ m : List Bytes, (∀ p ∈ m, sep ∉ p) → m.length = tp.length →
              Hash.hashOf (joinSlash m) = Hash.hashOf (joinSlash tp) → joinSlash m = joinSlash tp)
    (hrh : rp.getLast? ≠ some hashSym)
    (hcolp : (tw = false ∧ ∀ p ∈ tp, p = plus) →
              Hash.hashOf (joinSlash (List.replicate rp.length plus)) = Hash.hashOf (joinSlash tp) →
              rp.length = tp.length) :
    k.validateChannel ch = coversParts tp tw rp rw :=
  Security.validate_covers k tp tw rp rw ch hpath hhash hch htw hrw hrne hlen hnh hsup hcol hrh hcolp

/-- The same with non-collision hypotheses that mention only the ONE pair of strings the code
hashes and compares for this request (the masked request cut to the target's depth against the
target) — hypotheses a concrete request can actually satisfy; `validate_covers` above asks for
non-collision against every string of the target's depth, which no 32-bit hash provides. -/
theorem validate_covers_exact (k : Key) (tp : List Bytes) (tw : Bool) (rp : List Bytes) (rw : Bool) (ch : Channel)
    (hpath : k.targetPath = pathOf tp tw) (hhash : k.target = Hash.hashOf (joinSlash tp))
    (hch : ch.channel = chanOf rp rw)
    (htw : ∀ p ∈ tp, levelWf p) (hrw : ∀ p ∈ rp, levelWf p) (hrne : rp ≠ [])
    (hlen : tp.length ≤ 23) (hnh : hashSym ∉ tp)
    (hsup : tp ≠ [] ∧ (tp.getLast? ≠ some plus ∨ (tw = false ∧ ∀ p ∈ tp, p = plus)))
    (hcol : ∀ m : List Bytes, maskParts (pathOf tp tw) rp 0 = some m →
              (∀ p ∈ m.take tp.length, sep ∉ p) → (m.take tp.length).length = tp.length →
              Hash.hashOf (joinSlash (m.take tp.length)) = Hash.hashOf (joinSlash tp) →
              joinSlash (m.take tp.length) = joinSlash tp)
    (hrh : rw = false → rp.getLast? ≠ some hashSym)
    (hcolp : (tw = false ∧ ∀ p ∈ tp, p = plus) →
              Hash.hashOf (joinSlash (List.replicate rp.length plus)) = Hash.hashOf (joinSlash tp) →
              rp.length = tp.length) :
    k.validateChannel ch = coversParts tp tw rp rw :=
  Security.validate_covers_gen k tp tw rp rw ch hpath hhash hch htw hrw hrne hlen hnh hsup hcol hrh hcolp

/-- non-vacuity of `validate_covers_exact`: a concrete key, target a/+/b/#/ and request a/x/b/c/
meet every hypothesis (the hash hypotheses by evaluation: the compared strings are equal) -/
example : ∃ k, Key.setTarget (List.replicate 24 0) [97, 47, 43, 47, 98, 47, 35, 47] = .ok k ∧
    k.validateChannel (parseChannel [107, 47, 97, 47, 120, 47, 98, 47, 99, 47]) = true ∧
    covers [97, 47, 43, 47, 98, 47, 35, 47] [97, 47, 120, 47, 98, 47, 99, 47] = true := by
  refine ⟨_, rfl, ?_, ?_⟩ <;> decide

/-- `SetTarget` writes exactly the fields `validate_covers` reads (so the two compose for
every key produced by key generation). -/
theorem setTarget_fields (k : Key) (hk : k.length = 24) (tp : List Bytes) (tw : Bool)
    (hwf : ∀ p ∈ tp, levelWf p) (hne : tp ≠ [] ∨ tw = true) (hlen : tp.length ≤ 23) (hnh : hashSym ∉ tp) :
    ∃ k', k.setTarget (chanOf tp tw) = .ok k' ∧ k'.targetPath = pathOf tp tw ∧
      k'.target = Hash.hashOf (joinSlash tp) ∧ k'.length = 24 ∧
      (∀ i, i < 12 ∨ i = 15 ∨ 20 ≤ i → k'.b i = k.b i) := Security.setTarget_fields k hk tp tw hwf hne hlen hnh

/-- the "#/" key covers everything -/
theorem hash_target_covers_all (k : Key) (hp : k.targetPath = 0) (ht : k.target = 1325880984) (ch : Channel)
    (hc : ch.channel ≠ []) : k.validateChannel ch = true := by
  unfold Key.validateChannel
  simp [hp, ht, hc]

/-- the excluded targets really are mis-handled by the code (finding C03.target-trailing-plus):
a key for a/+/ does not validate a/b/ -/
theorem trailing_plus_refuted :
    ∃ k, Key.setTarget (List.replicate 24 0) [97, 47, 43, 47] = .ok k ∧
      k.validateChannel (parseChannel [107, 47, 97, 47, 98, 47]) = false ∧ covers [97, 47, 43, 47] [97, 47, 98, 47] = true := by
  refine ⟨_, rfl, ?_, ?_⟩ <;> decide

/-! non-vacuity -/
example : covers [97, 47, 43, 47, 35, 47] [97, 47, 98, 47, 99, 47] = true := by decide
example : covers [97, 47] [97, 47, 35, 47] = false := by decide

end Emitter.C03
