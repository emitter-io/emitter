/-
  C09 — Hostile or malformed input cannot take the broker down.

  The model (Emitter/Model/Hostile.lean) is of the code with the repairs D10 (refined), D11 and D18;
  the presence of every `recover` the statements rely on is a regenerated fact, checked here.
-/
import Emitter.Lemmas.Hostile
import Emitter.Lemmas.Channel
namespace Emitter.C09
open Emitter Emitter.Hostile

/-! ## regenerated shape facts (harness/gofacts, go/ast over the working tree) -/

/-- `Conn.Process` starts with `defer c.Close()`, `Conn.Close` calls `recover()` itself, and each of
`OnGossip`, `OnGossipBroadcast`, `OnGossipUnicast` starts by deferring a function that calls `recover()`. -/
theorem facts_sound : facts.sound = true := by decide

theorem facts_connSafe : facts.connSafe := Facts.connSafe_of_sound facts_sound

/-! ## decode_total — the client port -/

/-- For every byte stream and every limit, the only input-sized allocation of `DecodePacket` is at
most the limit (`Outcome` classifies the result as ok | err | panic; panics are `conn_contains`' business).
The bound is on what is allocated, not on what is read: "reads at most limit + 5 bytes" is false of
the code — the remaining-length loop accepts any number of continuation digits (uint32 wrap-around),
each read in O(1) space; what a successful decode reads is `decode_consumes`. -/
theorem decode_alloc (s : Bytes) (max : Nat) : mqttAlloc s max ≤ max := by
  fun_cases mqttAlloc s max with
  | case4 _ _ _ _ _ _ h =>  -- a body packet within the limit: the only branch that allocates
    exact Nat.le_of_not_gt h
  | _ => exact Nat.zero_le _

/-- a remaining length above the limit is refused with an error, nothing is allocated for it -/
theorem decode_refuses_oversize (first : UInt8) (rest r : Bytes) (len : UInt32) (max : Nat)
    (hl : Mqtt.decodeLen rest 1 0 = .ok (len, r))
    (hp : isPingType ((first &&& 0xf0) >>> 4) = false) (hbig : max < len.toNat) :
    Mqtt.decode (first :: rest) max = .err "too-large" ∧ mqttAlloc (first :: rest) max = 0 := by
  rw [decode_body max hl hp, mqttAlloc_cons max hl, hp, if_pos hbig]
  exact ⟨rfl, if_pos hbig⟩

/-- a successful decode consumed a non-empty header and exactly the allocated body (≤ limit); the
rest of the stream is untouched (so the packets of a stream are decoded one after the other) -/
theorem decode_consumes (s : Bytes) (max : Nat) (p : Mqtt.Packet) (rest : Bytes)
    (h : Mqtt.decode s max = .ok (p, rest)) :
    ∃ hdr body, s = hdr ++ body ++ rest ∧ 0 < hdr.length ∧ body.length = mqttAlloc s max ∧ body.length ≤ max := by
  cases s with
  | nil => cases h
  | cons first r0 =>
    obtain ⟨len, r1, hl, hle, rfl⟩ := decode_ok_shape h
    obtain ⟨pre, hpre, _⟩ := Mqtt.decodeLen_suffix r0 1 0 len r1 hl
    -- header: type byte and length digits; body: what was allocated, cut off the front of `r1`
    have hb := List.length_take_of_le hle
    refine ⟨first :: pre, r1.take (mqttAlloc (first :: r0) max), ?_, Nat.succ_pos _, hb, ?_⟩
    · rw [hpre, List.append_assoc, List.take_append_drop]
      rfl
    · rw [hb]
      exact decode_alloc _ max

/-! ## conn_contains -/

/-- No outcome of decoding + handling a packet — error or panic, anywhere below `Conn.Process` —
takes the process down; for every history of rounds on any connections. -/
theorem conn_contains (h : List (Nat × Outcome Unit)) (b : Broker) (hb : b.down = false) :
    (b.run facts h).down = false := by
  rw [run_down facts facts_connSafe]; exact hb

/-- … a panic closes exactly the connection it happened on (its subscriptions are released) … -/
theorem conn_panic_closes (b : Broker) (c : Nat) (w : String) (st : ConnSt)
    (hd : b.down = false) (hc : b.get c = some st) :
    (b.step facts c (.panic w)).get c = some { alive := false, subs := [] } ∧
    (b.step facts c (.panic w)).down = false :=
  step_panic_closes facts facts_connSafe b c w st hd hc

/-- … and a connection that is not the subject of any round of a history is exactly as it was -/
theorem conn_frame (c' : Nat) (h : List (Nat × Outcome Unit)) (b : Broker) (hne : ∀ x ∈ h, x.1 ≠ c') :
    (b.run facts h).get c' = b.get c' :=
  run_frame facts c' h b hne

/-- every byte stream on a client connection ends, at worst, with that connection closed -/
theorem stream_contained (max : Nat) (s : Bytes) : streamFate facts max s.length s ≠ .fatal :=
  streamFate_not_fatal facts facts_connSafe max _ s

/-- the facts matter: without the `recover` in `Close` a panic takes the broker down -/
theorem conn_needs_recover :
    (({ conns := [(1, ⟨true, []⟩)] } : Broker).step { facts with closeRecovers := false } 1 (.panic "x")).down = true := by
  decide

/-- a PUBLISH the broker emits (its size is chosen by clients and peers) never makes the encoder
panic: a body that does not fit behind the header is refused (D9, proved for C16) -/
theorem encode_total (h : Mqtt.Header) (t : Bytes) (mid : UInt16) (pl : Bytes) :
    (Mqtt.encode (.publish h t mid pl)).isPanic = false :=
  Mqtt.encode_publish_no_panic h t mid pl

/-! ## gossip_total — the cluster port -/

/-- No payload makes a gossip callback fatal — for every byte string, whatever snappy's block
decoder returns for it, whatever the storage handler does with a survey. -/
theorem gossip_total (unsnap : Bytes → Option Bytes) (store : Outcome Unit) (raw : Bytes) :
    onGossip facts unsnap raw ≠ .fatal ∧ onBroadcast facts unsnap raw ≠ .fatal ∧
    onUnicast facts unsnap store raw ≠ .fatal := by
  -- each `rfl` is the regenerated fact that the callback defers a recover
  refine ⟨?_, guarded_not_fatal rfl _ _ _, guarded_not_fatal rfl _ _ _⟩
  unfold onGossip
  split
  · exact Verdict.noConfusion
  · exact guarded_not_fatal rfl _ _ _

/-- the recover is the second line of defence only: a state payload that `DecodeState` accepts cannot
make `State.Merge` panic (every value carries its two times), so a panic of `Swarm.merge` can only
come from the decoder's `Slice` with a wrapped length -/
theorem merge_panic_free (inner : Bytes) (sets : List (Nat × List Entry)) (h : decodeState inner = .ok sets) :
    ∃ n, mergeState sets = .ok n :=
  mergeState_ok sets (decodeState_good h)

theorem merge_panics_only_in_decoder (inner : Bytes) (w : String) (h : mergeInner inner = .panic w) :
    decodeState inner = .panic w := by
  unfold mergeInner at h
  split at h
  next sets hd =>
    obtain ⟨n, hn⟩ := merge_panic_free inner sets hd
    rw [hn] at h
    cases h
  next => cases h
  next w' hd =>
    cases h
    exact hd

/-- input-sized allocations are linear in the payload: the snappy buffer is at most 32× the raw
bytes (a larger preamble is refused before allocating), the frame slice at most 80 bytes per 3 bytes
of decompressed input (a larger count is refused) -/
theorem gossip_alloc (raw : Bytes) : gossipAlloc raw ≤ 32 * raw.length := blockAlloc_le raw

theorem unicast_alloc (raw inner : Bytes) (h : inner.length ≤ blockAlloc raw) :
    unicastAlloc raw inner ≤ 886 * raw.length := by
  have h1 := blockAlloc_le raw
  have h2 : frameAlloc inner ≤ 80 * (inner.length / 3) := frameAlloc_le inner
  unfold unicastAlloc
  -- 32·n for the block, 80 bytes per 3 of at most 32·n for the frame: 32 + ⌈80·32/3⌉ = 886
  omega

/-- the facts matter: a panicking payload is fatal when the callback does not recover -/
theorem gossip_needs_recover :
    onGossip { facts with onGossipRecovers := false } (fun _ => some [1, 0, 1, 128, 128, 128, 128, 128, 128, 128, 128, 128, 1, 0]) [14, 0, 0] = .fatal := by
  decide +kernel

/-! ## query_alloc -/

/-- the result buffer of a history lookup holds at most 64 entries whatever limit the client (or a
peer, through a survey) asks for — negative, 10^8 or 2^63-1 -/
theorem query_alloc (limit : Int) : lookupCap limit ≤ 64 := by
  unfold lookupCap
  split <;> omega

/-- and the loop appends at most `limit` entries, no more than there are matching messages, whose
total size stays within the message size -/
theorem query_reply (limit : Int) (sizes : List Nat) :
    (lookup limit sizes).sum ≤ maxReply ∧
    ((lookup limit sizes).length = 0 ∨ ((lookup limit sizes).length : Int) ≤ limit) ∧
    (lookup limit sizes).length ≤ sizes.length := by
  obtain ⟨h1, h2, h3⟩ := lookupLoop_bounds limit 0 0 sizes (Nat.zero_le _)
  unfold lookup
  omega

/-! ## channel strings — parsed for every SUBSCRIBE / UNSUBSCRIBE / PUBLISH / last will / request before any key is looked at -/

/-- `ParseChannel` terminates on every topic: the option loop consumes at least one byte per round, so with
fuel above the length of the option text the model's answer never is "out of fuel" (it does not depend on
the fuel at all). A change to the Go loop that stops consuming (e.g. a stale key/value surviving a round)
makes the real parser spin while the model still answers: the correspondence run's watchdog reports it. -/
theorem channel_options_terminate (fuel : Nat) (text : Bytes) (h : text.length < fuel) :
    Security.parseOptions fuel text = Security.parseOptions (text.length + 1) text :=
  Security.parseOptions_fuel fuel text h

/-- … and what it builds is bounded by the topic: at most one option and one level per input byte -/
theorem channel_alloc (text : Bytes) :
    (Security.parseChannel text).options.length ≤ text.length ∧ (Security.parseChannel text).query.length ≤ text.length :=
  Security.parseChannel_bounded text

-- "k/a/?ttl=1&x": a well-formed option followed by a dangling key is refused (not looped on)
example : (Security.parseChannel [107, 47, 97, 47, 63, 116, 116, 108, 61, 49, 38, 120]).ctype = Security.chInvalid := by decide +kernel
-- "k/a/?ttl=1&x=2" is accepted with two options
example : (Security.parseChannel [107, 47, 97, 47, 63, 116, 116, 108, 61, 49, 38, 120, 61, 50]).options.length = 2 := by decide +kernel

-- a valid PUBLISH is decoded, its 7-byte body is what was allocated
example : mqttAlloc [0x30, 7, 0, 2, 97, 47, 1, 2, 3, 0xc0, 0] 65536 = 7 := by decide +kernel
example : (Mqtt.decode [0x30, 7, 0, 2, 97, 47, 1, 2, 3, 0xc0, 0] 65536).isPanic = false := by decide +kernel
-- a PUBLISH whose topic length points outside the body makes the decoder panic …
example : (Mqtt.decode [0x30, 1, 0] 65536).isPanic = true := by decide +kernel
-- … which closes the connection
example : streamFate facts 65536 3 [0x30, 1, 0] = .closed := by decide +kernel
-- a state with a 7-byte value is refused by the decoder, one with a 16-byte value is merged
example : decodeState [1, 0, 1, 1, 107, 7, 0, 0, 0, 0, 0, 0, 0] = .err "malformed value" := by decide +kernel
example : mergeInner [1, 0, 1, 1, 107, 16, 0, 0, 0, 0, 0, 0, 0, 5, 0, 0, 0, 0, 0, 0, 0, 0] = .ok 1 := by decide +kernel
-- a key length of 2^63 makes `Slice` panic; the callback turns it into a rejected payload
example : (decodeState [1, 0, 1, 128, 128, 128, 128, 128, 128, 128, 128, 128, 1, 0]).isPanic = true := by decide +kernel
example : onGossip facts (fun _ => some [1, 0, 1, 128, 128, 128, 128, 128, 128, 128, 128, 128, 1, 0]) [14, 0, 0] = .rejected := by decide +kernel
-- a frame announcing 10^9 messages in 5 bytes is refused, nothing is allocated for it
example : decodeFrame [0x80, 0x94, 0xeb, 0xdc, 0x03] = .err "malformed frame" := by decide +kernel
example : frameAlloc [0x80, 0x94, 0xeb, 0xdc, 0x03] = 0 := by decide +kernel
-- a snappy preamble of 4 GiB - 1 on a 13-byte payload is refused, nothing is allocated
example : blockAlloc [0xff, 0xff, 0xff, 0xff, 0x0f, 0, 0, 0, 0, 0, 0, 0, 0] = 0 := by decide +kernel
example : lookupCap 100000000 = 64 ∧ lookupCap (-1) = 64 ∧ lookupCap 5 = 5 := by decide +kernel
example : lookup 3 [27, 27, 27, 27] = [27, 27, 27] := by decide +kernel

end Emitter.C09
