/-
  C01 — Published messages reach exactly the matching subscribers.
-/
import Emitter.Lemmas.Trie
import Emitter.Model.Hash
namespace Emitter.C01
open Emitter Emitter.Trie

/-! ## regenerated facts: the wildcard / share words are the murmur hashes of "+", "#", "$share" -/
theorem fact_words : wildcard = Hash.hashOf [43] ∧ multiWildcard = Hash.hashOf [35] ∧
    shareWord = Hash.hashOf [36, 115, 104, 97, 114, 101] := by decide

/-- emitter mode: the filter is a level-wise prefix of the channel and `+` matches any level -/
theorem matchesE_iff (f q : Path) :
    matchesE f q = true ↔ f.length ≤ q.length ∧ ∀ i (h : i < f.length) (h' : i < q.length),
      f[i] = q[i] ∨ f[i] = wildcard := by
  induction f generalizing q with
  | nil => simp [matchesE]
  | cons a fs ih =>
      cases q with
      | nil => simp [matchesE]
      | cons c cs =>
          rw [forall_getElem_cons₂ (P := fun x y => x = y ∨ x = wildcard)]
          simp [matchesE, ih cs, and_left_comm]

/-- mqtt mode: same depth with `+` matching one level, or a trailing `#` after a matching
prefix with at least one further channel level -/
theorem matchesM_iff (f q : Path) :
    matchesM f q = true ↔
      (f.length = q.length ∧ ∀ i (h : i < f.length) (h' : i < q.length), f[i] = q[i] ∨ f[i] = wildcard) ∨
      (∃ g, f = g ++ [multiWildcard] ∧ g.length < q.length ∧
        ∀ i (h : i < g.length) (h' : i < q.length), g[i] = q[i] ∨ g[i] = wildcard) := by
  simp only [matchesM_iff_matchesE, matchesE_iff]
  exact or_congr (and_congr_right fun h => and_iff_right (Nat.le_of_eq h))
    (exists_congr fun g => and_congr_right fun _ => and_congr_right fun h => and_iff_right (Nat.le_of_lt h))

/-- After any history of subscriptions and unsubscriptions the index holds exactly the
acknowledged, not yet removed (filter, subscriber) pairs, each once, and counts them. -/
theorem history_refines (ops : List Op) :
    (run ops).root.wf ∧ (∀ e, e ∈ (run ops).root.abs ↔ e ∈ specRun ops) ∧
    (run ops).count = (specRun ops).length ∧ (specRun ops).Nodup := Trie.history_refines ops

/-- A message published to a channel is handed to exactly those subscribers that hold at
least one subscription whose filter matches the channel under the configured matching mode. -/
theorem lookup_exact (ops : List Op) (m : Mode) (q : Path) (s : Sub) :
    s ∈ (run ops).root.lookup m q ↔ ∃ f, (f, s) ∈ specRun ops ∧ matchesMode m f q = true := by
  simp only [lookup_spec, (Trie.history_refines ops).2.1]

/-- … plus exactly one member of every share group that has a matching member, whatever the
random choice (any `pick` that returns an element of its non-empty argument). -/
theorem lookup_share (ops : List Op) (m : Mode) (pick : List Sub → Sub) (ssid : Path) (s : Sub) :
    s ∈ lookupAll m pick (run ops).root ssid ↔
      s ∈ (run ops).root.lookup m ssid ∨ ∃ g ∈ shareGroups m (run ops).root ssid, g.2 ≠ [] ∧ s = pick g.2 :=
  lookupAll_spec m pick (run ops).root ssid s

theorem share_candidates (ops : List Op) (m : Mode) (c : Word) (q : Path) (g : Word) (cands : List Sub)
    (hg : (g, cands) ∈ shareGroups m (run ops).root (c :: q)) (s : Sub) :
    s ∈ cands ↔ ∃ f, (c :: shareWord :: g :: f, s) ∈ specRun ops ∧ matchesMode m f q = true := by
  have h := Trie.history_refines ops
  simp only [shareGroups_spec m _ c q h.1 g cands hg s, h.2.1]

/-- When every subscription has been removed the subscription index is empty again. -/
theorem index_empty_again (ops : List Op) (h : specRun ops = []) :
    (run ops).root = Node.empty ∧ (run ops).count = 0 ∧ (run ops).root.size = 1 := by
  obtain ⟨hwf, hmem, hcount, _⟩ := Trie.history_refines ops
  have hroot := Node.eq_empty_of_abs_nil _ hwf.2.1 (List.eq_nil_iff_forall_not_mem.mpr fun e he => by
    simpa [h] using (hmem e).mp he)
  exact ⟨hroot, by rw [hcount, h]; rfl, hroot ▸ rfl⟩

/-- the one hypothesis the code forces (recorded finding C01.subid-hash-collision): subscribers
are identified by the 32-bit murmur of their id; two different ids can collide -/
theorem subid_collision_exists :
    Hash.hashOf [115, 56, 53, 56, 54, 49] = Hash.hashOf [115, 57, 57, 50, 51, 50] := by decide

/-! non-vacuity -/
example : specRun [.sub [1, 11] 7, .sub [1, wildcard] 8, .unsub [1, 11] 7] = [([1, wildcard], 8)] := by decide
example : (run [.sub [1, 11] 7, .sub [1, wildcard] 8, .unsub [1, 11] 7]).root.lookupE [1, 12, 13] = [8] := by decide

end Emitter.C01
