/-
  C11 — Derived keys never exceed their parent or the request.
  Statements over the key-generation model (Emitter/Model/Security.lean) and the broker model;
  proofs in Emitter/Lemmas/Keys.lean and Emitter/Lemmas/Broker.lean.
-/
import Emitter.Lemmas.Keys
import Emitter.Lemmas.Broker
import Emitter.Props.Tie.Key
namespace Emitter.C11
open Emitter Emitter.Security Emitter.Broker

/-- Only a valid, unexpired master key of an allowed contract can mint keys. -/
theorem create_requires_master (e : Env) (masterStr channel : Bytes) (access : UInt8) (expires : Int) (salt : UInt16)
    (k : Key) (h : createKey e masterStr channel access expires salt = .ok k) :
    ∃ mk, e.decrypt masterStr = some mk ∧ mk.isMaster = true ∧ mk.isExpired e.now = false ∧ e.contractOk mk = true := by
  obtain ⟨mk, h1, h2, h3, h4, _⟩ := createKey_ok e masterStr channel access expires salt k h
  exact ⟨mk, h1, h2, h3, h4⟩

/-- A created key never has the master permission, never a permission that was not requested;
it keeps the parent's contract, signature and master id and expires as requested. -/
theorem create_fields (e : Env) (masterStr channel : Bytes) (access : UInt8) (expires : Int) (salt : UInt16)
    (k mk : Key) (hd : e.decrypt masterStr = some mk) (hl : mk.length = 24)
    (h : createKey e masterStr channel access expires salt = .ok k) :
    k.permissions = access &&& (0xFF ^^^ permMaster) ∧
    k.hasPermission permMaster = false ∧
    k.permissions &&& access = k.permissions ∧
    k.contract = mk.contract ∧ k.signature = mk.signature ∧ k.master = mk.master ∧
    k.expireField = (Key.setExpires (List.replicate 24 (0 : UInt8)) expires).expireField ∧
    k.length = 24 := by
  -- `hl` is not needed: the key is built from zeros and `mk`'s fields, whatever `mk`'s length
  have _ := hl
  obtain ⟨mk', h1, _, _, _, ht⟩ := createKey_ok e masterStr channel access expires salt k h
  rw [hd] at h1; cases h1
  obtain ⟨pl, pp, pc, ps, pm, pe⟩ := preKey_facts mk access expires salt
  -- `SetTarget` keeps every field of the key `CreateKey` has built so far
  have kept := setTarget_keeps pl ht
  have hperm : k.permissions = access &&& (0xFF ^^^ permMaster) := kept.permissions.trans pp
  have hnm : k.hasPermission permMaster = false :=
    hasPermission_false k permMaster (by rw [hperm]; exact u8_clear access permMaster) (by decide)
  have hsub : k.permissions &&& access = k.permissions := by rw [hperm]; exact u8_and_mask_self _ _
  exact ⟨hperm, hnm, hsub, kept.contract.trans pc, kept.signature.trans ps, kept.master.trans pm,
    kept.expireField.trans pe, kept.length⟩

/-- It targets exactly the requested channel (C03 `setTarget_fields` / `validate_covers` say what that target covers). -/
theorem create_target (e : Env) (masterStr channel : Bytes) (access : UInt8) (expires : Int) (salt : UInt16)
    (k : Key) (h : createKey e masterStr channel access expires salt = .ok k) :
    ∃ k0, Key.setTarget (List.replicate 24 0) channel = .ok k0 ∧ k.targetPath = k0.targetPath ∧ k.target = k0.target := by
  obtain ⟨mk, _, _, _, _, ht⟩ := createKey_ok e masterStr channel access expires salt k h
  exact setTarget_target (preKey_facts mk access expires salt).1 ht

/-- `Request.access()`: the permission mask of a type string never has the master bit -/
theorem access_never_master (ty : Bytes) : accessOf ty &&& permMaster = 0 := by
  -- invariant of the fold: every branch ORs in a flag other than the master bit, or nothing
  refine List.foldlRecOn (motive := fun acc => acc &&& permMaster = 0) ty _ (by decide) fun acc h c _ => ?_
  have step (f : UInt8) (hf : f &&& permMaster = 0) : (acc ||| f) &&& permMaster = 0 := by
    rw [u8_or_and, h, hf]; rfl
  have br {p : Prop} [Decidable p] {a b : UInt8} (ha : a &&& permMaster = 0) (hb : b &&& permMaster = 0) :
      (if p then a else b) &&& permMaster = 0 := by split <;> assumption
  exact br (step _ (by decide)) <| br (step _ (by decide)) <| br (step _ (by decide)) <| br (step _ (by decide)) <|
    br (step _ (by decide)) <| br (step _ (by decide)) <| br (step _ (by decide)) h

/-- Extension needs a parent that authorizes Extend on the channel …

The hypothesis `hs : sep ∉ keyStr` (the key string presented contains no '/') is needed. Without
it the statement is false: `ExtendKey` parses `keyStr ++ "/" ++ channel`, so `keyStr = K ++ "/a"`
(`K` a valid extend key for "#/") with channel "b/" succeeds on the strength of `K` for channel
"a/b/", while `keyStr` itself is no key at all. `Emitter.Security.extendKey_requires_extend_gen`
has no hypothesis on `keyStr`: there `ch.key` is the part of `keyStr` before its first '/'. -/
theorem extend_requires_extend (e : Env) (keyStr channelName connId : Bytes) (access : UInt8) (expires : Int)
    (k : Key) (target : Bytes) (hs : sep ∉ keyStr)
    (h : extendKey e keyStr channelName connId access expires = .ok (k, target)) :
    ∃ parent ch, ch.ctype = chStatic ∧ authorize e ch permExtend = some parent ∧ ch.key = keyStr := by
  obtain ⟨parent, ch, h1, h2, h3⟩ := extendKey_requires_extend_gen e keyStr channelName connId access expires k target h
  exact ⟨parent, ch, h1, h2, by rw [h3, takeWhile_no_sep hs]⟩

/-- … and yields permissions ⊆ parent ∩ request without extend, the same contract, signature
and master id, and the target `channel ++ connection id ++ "/"` (`++ "#/"`). -/
theorem extend_subset (e : Env) (keyStr channelName connId : Bytes) (access : UInt8) (expires : Int)
    (k parent : Key) (target : Bytes) (ch : Channel)
    (hp : authorize e ch permExtend = some parent) (hl : parent.length = 24)
    (hch : ch = parseChannel (keyStr ++ [sep] ++ (if hasSuffix channelName [35, 47] then channelName.take (channelName.length - 2) else channelName)))
    (h : extendKey e keyStr channelName connId access expires = .ok (k, target)) :
    k.permissions = (parent.permissions &&& (0xFF ^^^ permExtend)) &&& access ∧
    k.hasPermission permExtend = false ∧
    k.permissions &&& parent.permissions = k.permissions ∧ k.permissions &&& access = k.permissions ∧
    k.contract = parent.contract ∧ k.signature = parent.signature ∧ k.master = parent.master ∧
    target = ch.channel ++ connId ++ [sep] ++ (if hasSuffix channelName [35, 47] then [35, 47] else []) ∧
    (∃ k0, Key.setTarget (List.replicate 24 0) target = .ok k0 ∧ k.targetPath = k0.targetPath ∧ k.target = k0.target) := by
  obtain ⟨_, parent', ha, htgt, hst⟩ := extendKey_ok e keyStr channelName connId access expires k target ch hch h
  rw [hp] at ha; cases ha
  obtain ⟨xl, xp, xc, xs, xm⟩ := extPre_facts parent access expires hl
  have kept := setTarget_keeps xl hst
  have hperm : k.permissions = (parent.permissions &&& (0xFF ^^^ permExtend)) &&& access := kept.permissions.trans xp
  -- the extend bit was cleared before the request's mask was applied
  have hne : k.hasPermission permExtend = false :=
    hasPermission_false k permExtend
      (by rw [hperm]; exact u8_clear_and access (u8_clear _ _)) (by decide)
  have hsubp : k.permissions &&& parent.permissions = k.permissions := by
    rw [hperm, UInt8.and_assoc parent.permissions]; exact u8_and_mask_self _ _
  have hsuba : k.permissions &&& access = k.permissions := by rw [hperm, UInt8.and_assoc, UInt8.and_self]
  exact ⟨hperm, hne, hsubp, hsuba, kept.contract.trans xc, kept.signature.trans xs, kept.master.trans xm, htgt,
    setTarget_target xl hst⟩

/-- An extendable key cannot itself be used to subscribe, unsubscribe or publish: such a
request changes nothing and is answered with an error (for every authorizer that grants it). -/
theorem extendable_cannot_subscribe (auth : Auth) (b : B) (name : String) (c : Conn) (mid : UInt16) (topic : Bytes) (qos : UInt8)
    (g : Grant) (hc : b.conn? name = some c) (ha : c.alive = true)
    (hg : auth b.banned (parseChannel (fixTopic topic)) permRead = some g) (hx : g.has permExtend = true) :
    ∃ st, step auth b name (.subscribe mid topic qos) = (b, [(name, errPkt mid st), (name, .suback mid [0x80])]) :=
  by simp only [step_subscribe auth hc ha, admitSub_eq_none.2 (Or.inr (Or.inr ⟨g, hg, hx⟩))]; exact ⟨_, rfl⟩

theorem extendable_cannot_publish (auth : Auth) (b : B) (name : String) (c : Conn) (qos : UInt8) (retain : Bool)
    (mid : UInt16) (topic payload : Bytes) (g : Grant) (hc : b.conn? name = some c) (ha : c.alive = true)
    (hg : auth b.banned (parseChannel (resolve c topic)) permWrite = some g) (hx : g.has permExtend = true) :
    ∃ st, step auth b name (.publish qos retain mid topic payload)
      = (b, [(name, errPkt mid st)] ++ (if qos > 0 then [(name, .puback mid)] else [])) :=
  by simp only [step_publish auth hc ha, admitPub_eq_none.2 (Or.inr (Or.inr ⟨g, hg, hx⟩))]; exact ⟨_, rfl⟩

end Emitter.C11
