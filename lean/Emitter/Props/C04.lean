/-
  C04 — Replicated cluster state converges regardless of delivery order.
-/
import Emitter.Lemmas.Lww
namespace Emitter.C04
open Emitter Emitter.Lww

/-- `Merge` is the pointwise maximum of add and remove times, for every key: absent keys,
ties, zero and negative incoming times (the local replica's times are ≥ 0, an invariant of
every reachable state, see `nonneg_preserved`). -/
theorem merge_is_max (s r : Map) (hs : NonNeg s) (hr : NoDup r) (k : Bytes) :
    tget (merge s r).1 k = tmax (tget s k) (tget r k) := tget_merge s r hs hr k

/-- the invariants the other theorems assume are preserved by every operation -/
theorem nonneg_preserved (s r : Map) (k : Bytes) (now : Int) (p : Bytes) (hs : NonNeg s) :
    NonNeg (merge s r).1 ∧ NonNeg (add s k now p) ∧ NonNeg (del s k now) :=
  ⟨nonneg_merge s r hs, nonneg_add k now p hs, nonneg_del k now hs⟩

theorem nodup_preserved (s r : Map) (k : Bytes) (now : Int) (p : Bytes) (hs : NoDup s) :
    NoDup (merge s r).1 ∧ NoDup (add s k now p) ∧ NoDup (del s k now) :=
  ⟨nodup_merge s r hs, nodup_add k now p hs, nodup_del k now hs⟩

/-- local operations are merges of one-entry updates (so histories of add / remove at any
replica with arbitrary clock readings are covered by the delivery theorems) -/
theorem local_ops_are_updates (s : Map) (k : Bytes) (now : Int) (p : Bytes) (hs : NonNeg s) :
    Equiv (add s k now p) (merge s [(k, ⟨now, 0, p⟩)]).1 ∧ Equiv (del s k now) (merge s [(k, ⟨0, now, []⟩)]).1 :=
  ⟨add_as_merge s k now p hs, del_as_merge s k now hs⟩

theorem idempotent (s : Map) (hs : NonNeg s) (hd : NoDup s) : Equiv (merge s s).1 s := by
  intro k; rw [tget_merge s s hs hd, tmax_self]

theorem commutative (a b : Map) (ha : NonNeg a) (hb : NonNeg b) (da : NoDup a) (db : NoDup b) :
    Equiv (merge a b).1 (merge b a).1 := merge_comm a b ha hb da db

theorem associative (a b c : Map) (ha : NonNeg a) (hb : NonNeg b) (da : NoDup a) (db : NoDup b) (dc : NoDup c) :
    Equiv (merge (merge a b).1 c).1 (merge a (merge b c).1).1 := by
  have _ := da  -- not needed
  intro k
  rw [tget_merge _ c (nonneg_merge a b ha) dc, tget_merge a b ha db,
    tget_merge a _ ha (nodup_merge b c db), tget_merge b c hb dc, tmax_assoc]

/-- Any two replicas that received the same set of updates — in any order, any number of
times, in any grouping — hold the same add and remove times for every key … -/
theorem converge (ds₁ ds₂ : List Map) (h₁ : ∀ u ∈ ds₁, NoDup u) (h₂ : ∀ u ∈ ds₂, NoDup u)
    (hset : ∀ u, u ∈ ds₁ ↔ u ∈ ds₂) : Equiv (deliver [] ds₁) (deliver [] ds₂) :=
  Lww.converge ds₁ ds₂ h₁ h₂ hset

/-- … hence the same answer to "is this event active" -/
theorem converge_active (ds₁ ds₂ : List Map) (h₁ : ∀ u ∈ ds₁, NoDup u) (h₂ : ∀ u ∈ ds₂, NoDup u)
    (hset : ∀ u, u ∈ ds₁ ↔ u ∈ ds₂) (k : Bytes) : has (deliver [] ds₁) k = has (deliver [] ds₂) k :=
  has_congr _ _ k (Lww.converge ds₁ ds₂ h₁ h₂ hset k)

/-- n replicas, any schedule of local updates and snapshot exchanges (partitions are simply
schedules without certain pairs): replicas that have transitively absorbed the same updates
agree. -/
theorem schedule_converge (n : Nat) (evs : List NetEv)
    (hu : ∀ e ∈ evs, ∀ r u, e = NetEv.localUpd r u → NoDup u)
    (a b : Map × List Map) (ha : a ∈ (evs.foldl Net.step (Net.init n)).reps)
    (hb : b ∈ (evs.foldl Net.step (Net.init n)).reps) (hsame : ∀ u, u ∈ a.2 ↔ u ∈ b.2) :
    Equiv a.1 b.1 := by
  intro key
  have hi := List.foldlRecOn evs _ (net_inv_init n) fun n' h e he => net_inv_step n' e h (hu e he)
  rw [(hi a ha).times key, (hi b hb).times key, joinT_congr hsame]

/-- An entry is active exactly when it has been added and its latest add is not older than
its latest remove (add bias on ties). -/
theorem active_iff (v : Val) : v.isAdded = true ↔ v.add ≠ 0 ∧ v.add ≥ v.del := isAdded_iff v

theorem active_after_add (s : Map) (k : Bytes) (now : Int) (p : Bytes)
    (h : (get s k).add < now ∧ (get s k).del ≤ now ∧ now ≠ 0) : has (add s k now p) k = true := by
  rw [has, get_add_self s k now p h.1, isAdded_iff]
  exact ⟨h.2.2, h.2.1⟩

theorem inactive_after_del (s : Map) (k : Bytes) (now : Int) (h : (get s k).add < now) :
    has (del s k now) k = false := by
  rw [← Bool.not_eq_true, del_eq]
  split
  · -- the remove time becomes `now`, which is later than the add
    rw [has_set, if_pos rfl, isAdded_iff]
    exact fun hh => Int.not_le.2 h hh.2
  · -- the stored remove time is already `≥ now`, later than the add
    rw [has, isAdded_iff]
    exact fun hh => Int.not_le.2 (Int.lt_of_lt_of_le h (Int.not_lt.1 ‹_›)) hh.2

/-- the durable backend stores exactly what the volatile one holds, and (with the cache
eviction of the D6 repair) answers `Has` from the stored value -/
theorem durable_same_state (d : Durable) (k : Bytes) (now : Int) (p : Bytes) (r : Map) :
    (d.add k now p).db = add d.db k now p ∧ (d.del k now).db = del d.db k now ∧
    (d.merge r).1.db = (merge d.db r).1 ∧ (d.merge r).2 = (merge d.db r).2 := by
  refine ⟨?_, ?_, durable_merge_refines d r⟩
  · unfold Durable.add add
    dsimp only
    split <;> rfl
  · unfold Durable.del del
    dsimp only
    split <;> rfl

theorem durable_has (d : Durable) (k : Bytes) (h : d.coherent) :
    (d.has k).1 = (get d.db k).isAdded ∧ (d.has k).2.db = d.db := durable_has_truth d k h

/-! non-vacuity: ties and out-of-order times -/
example : tget (merge [([1], ⟨5, 7, []⟩)] [([1], ⟨5, 3, [9]⟩), ([2], ⟨0, 4, []⟩)]).1 [1] = (5, 7) := by decide

example : has (deliver [] [[([1], ⟨5, 0, []⟩)], [([1], ⟨0, 5, []⟩)]]) [1] = true := by decide

end Emitter.C04
