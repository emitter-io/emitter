/-
  Tie theorems for internal/network/mqtt/mqtt.go: the flag-byte arithmetic of the codec as translated by
  tools/go2lean (`Emitter/Generated/GoMqtt.lean`, regenerated on every run) equals what the hand-written model
  (`Model/Mqtt.lean`) computes, for ALL inputs.  The one-byte functions are compared on all 256 bytes by kernel
  evaluation (`Bits.forall_byte` + `decide +kernel`, one pass: `tie_byte`), so any rewriting of the Go expression that
  keeps its value is accepted and any that changes it on some byte is refused.
-/
import Emitter.Lemmas.Bits
import Emitter.Model.Mqtt
import Emitter.Generated.GoMqtt
-- a value-preserving rewrite of the Go source may leave a simp argument unused; that is not an error
set_option linter.unusedSimpArgs false
namespace Emitter.Tie.Mqtt
open Emitter Emitter.Mqtt Emitter.Generated.GoMqtt

theorem tie_boolToUInt8 (v : Bool) : goBoolToUInt8 v = b2u v := by
  cases v <;> simp [goBoolToUInt8, b2u]

/-- `writeUint16(buf, v)` stores the model's `putBe16 v` (the length prefix of `writeString`) and returns 2 -/
theorem tie_writeUint16 (buf : Bytes) (v : UInt16) (h : 2 ≤ buf.length) :
    goWriteUint16 buf v = (putBe16 v ++ buf.drop 2, 2) := by
  have e := Bits.set2 buf 0 ((v &&& 65280) >>> 8).toUInt8 (v &&& 255).toUInt8 (by omega)
  simp only [goWriteUint16, putBe16, Bits.hi8_16, UInt8.ofNat_uInt16ToNat, Bits.mask_hi_16, Bits.mask_lo_16]
  simp only [Nat.zero_add, List.take_zero, List.nil_append, Bits.mask_hi_16, Bits.mask_lo_16] at e
  rw [e]

theorem tie_writeUint8 (buf : Bytes) (v : UInt8) (h : 1 ≤ buf.length) : goWriteUint8 buf v = (v :: buf.drop 1, 1) := by
  match buf, h with
  | x :: r, _ => simp [goWriteUint8]

/-- first byte of the fixed header written by `writeHeader` (`h = nil` is the model's `noHeader`) -/
theorem tie_writeHeader_firstByte (ty : UInt8) (h : Option Header) :
    goWriteHeader_firstByte ty h.isSome (h.getD noHeader).dup (h.getD noHeader).retain (h.getD noHeader).qos
      = firstByte ty (h.getD noHeader) := by
  cases h <;> simp [goWriteHeader_firstByte, firstByte, tie_boolToUInt8, noHeader, b2u] <;> tie_ac

/-- the connect flags byte composed by `Connect.EncodeTo` -/
theorem tie_EncodeTo_flagByte (c : Connect) :
    goEncodeTo_flagByte c.usernameFlag c.passwordFlag c.willRetain c.willQos c.willFlag c.cleanSession = connectFlags c := by
  simp [goEncodeTo_flagByte, connectFlags, tie_boolToUInt8] <;> tie_ac

/-- what `decodeHeader` extracts from the first byte and `decodeConnect` from the flags byte, against the model's
expressions: one pass over the 256 bytes -/
theorem tie_byte (f : UInt8) :
    goDecodeHeader_messageType f = (f &&& 0xf0) >>> 4 ∧ goDecodeHeader_DUP f = decide ((f &&& 0x08) > 0) ∧
    goDecodeHeader_QOS f = (f &&& 0x06) >>> 1 ∧ goDecodeHeader_retain f = decide ((f &&& 0x01) > 0) ∧
    goDecodeConnect_UsernameFlag f = decide ((f &&& 0x80) > 0) ∧
    goDecodeConnect_PasswordFlag f = decide ((f &&& 0x40) > 0) ∧
    goDecodeConnect_WillRetainFlag f = decide ((f &&& 0x20) > 0) ∧ goDecodeConnect_WillQOS f = (f >>> 3) &&& 3 ∧
    goDecodeConnect_WillFlag f = decide ((f &&& 0x04) > 0) ∧
    goDecodeConnect_CleanSeshFlag f = decide ((f &&& 0x02) > 0) := by
  revert f
  apply Bits.forall_byte
  decide +kernel

theorem tie_decodeHeader_messageType_byte (f : UInt8) : goDecodeHeader_messageType f = (f &&& 0xf0) >>> 4 :=
  (tie_byte f).1
theorem tie_decodeHeader_DUP (f : UInt8) : goDecodeHeader_DUP f = decide ((f &&& 0x08) > 0) := (tie_byte f).2.1
theorem tie_decodeHeader_QOS (f : UInt8) : goDecodeHeader_QOS f = (f &&& 0x06) >>> 1 := (tie_byte f).2.2.1
theorem tie_decodeHeader_retain (f : UInt8) : goDecodeHeader_retain f = decide ((f &&& 0x01) > 0) :=
  (tie_byte f).2.2.2.1
theorem tie_decodeConnect_UsernameFlag (f : UInt8) : goDecodeConnect_UsernameFlag f = decide ((f &&& 0x80) > 0) :=
  (tie_byte f).2.2.2.2.1
theorem tie_decodeConnect_PasswordFlag (f : UInt8) : goDecodeConnect_PasswordFlag f = decide ((f &&& 0x40) > 0) :=
  (tie_byte f).2.2.2.2.2.1
theorem tie_decodeConnect_WillRetainFlag (f : UInt8) : goDecodeConnect_WillRetainFlag f = decide ((f &&& 0x20) > 0) :=
  (tie_byte f).2.2.2.2.2.2.1
/-- two bits of will QoS (D8) -/
theorem tie_decodeConnect_WillQOS (f : UInt8) : goDecodeConnect_WillQOS f = (f >>> 3) &&& 3 :=
  (tie_byte f).2.2.2.2.2.2.2.1
theorem tie_decodeConnect_WillFlag (f : UInt8) : goDecodeConnect_WillFlag f = decide ((f &&& 0x04) > 0) :=
  (tie_byte f).2.2.2.2.2.2.2.2.1
theorem tie_decodeConnect_CleanSeshFlag (f : UInt8) : goDecodeConnect_CleanSeshFlag f = decide ((f &&& 0x02) > 0) :=
  (tie_byte f).2.2.2.2.2.2.2.2.2

/-- the header flags `decodeHeader` extracts for PUBLISH / SUBSCRIBE / UNSUBSCRIBE / PUBREL are the model's `headerOf` -/
theorem tie_decodeHeader_flags (ty first : UInt8) :
    headerOf ty first =
      if ty == tyPublish || ty == tySubscribe || ty == tyUnsubscribe || ty == tyPubrel then
        { dup := goDecodeHeader_DUP first, qos := goDecodeHeader_QOS first, retain := goDecodeHeader_retain first }
      else noHeader := by
  simp only [headerOf, tie_decodeHeader_DUP, tie_decodeHeader_QOS, tie_decodeHeader_retain]

/-- `Mqtt.decode` after the first byte, as a function of the message type and the header -/
def decodeTyped (ty : UInt8) (h : Header) (rest : Bytes) (max : Nat) : Outcome (Packet × Bytes) :=
  match decodeLen rest 1 0 with
  | .err e => .err e
  | .panic w => .panic w
  | .ok (len, rest) =>
      if ty == tyPingreq then .ok (.pingreq, rest)
      else if ty == tyPingresp then .ok (.pingresp, rest)
      else if ty == tyDisconnect then .ok (.disconnect, rest)
      else if len.toNat > max then .err "too-large"
      else if rest.length < len.toNat then .err "eof"
      else (decodeBody ty h (rest.take len.toNat)).map (fun p => (p, rest.drop len.toNat))

/-- the model's `decode` dispatches on the message type `decodeHeader` computes from the first byte -/
theorem tie_decodeHeader_messageType (first : UInt8) (rest : Bytes) (max : Nat) :
    decode (first :: rest) max =
      decodeTyped (goDecodeHeader_messageType first) (headerOf (goDecodeHeader_messageType first) first) rest max := by
  simp only [decode, decodeTyped, tie_decodeHeader_messageType_byte]
  cases decodeLen rest 1 0 with
  | ok p => cases p; rfl
  | err e | panic w => rfl

theorem bind_ok {α β} {o : Outcome α} {f : α → Outcome β} {b : β} :
    (o >>= f) = .ok b ↔ ∃ a, o = .ok a ∧ f a = .ok b := by
  cases o <;> simp [bind, Outcome.bind]

/-- every CONNECT packet the model decodes carries the six flag fields `decodeConnect` of the Go code computes from
the flags byte of the data -/
theorem tie_decodeConnect_flags (data : Bytes) (c : Connect) (h : decodeConnect data = .ok (.connect c)) :
    ∃ (pos : Nat) (flags : UInt8), data[pos]? = some flags ∧
      c.usernameFlag = goDecodeConnect_UsernameFlag flags ∧ c.passwordFlag = goDecodeConnect_PasswordFlag flags ∧
      c.willRetain = goDecodeConnect_WillRetainFlag flags ∧ c.willQos = goDecodeConnect_WillQOS flags ∧
      c.willFlag = goDecodeConnect_WillFlag flags ∧ c.cleanSession = goDecodeConnect_CleanSeshFlag flags := by
  unfold decodeConnect at h
  simp only [bind_ok] at h
  -- one `∃ a, read = .ok a ∧ …` per `←` of `decodeConnect`, in order; `a2`, `h2` are the read of the flags byte
  obtain ⟨a, _, a1, _, a2, h2, a3, _, a4, _, a5, _, a6, _, a7, _, hc⟩ := h
  simp only [pure, Outcome.ok.injEq, Packet.connect.injEq] at hc
  subst hc
  refine ⟨a1.snd, a2.fst, ?_, ?_⟩
  · unfold readByte at h2
    split at h2
    · simp only [Outcome.ok.injEq] at h2
      subst h2
      assumption
    · simp at h2
  · simp only [tie_decodeConnect_UsernameFlag, tie_decodeConnect_PasswordFlag, tie_decodeConnect_WillRetainFlag,
      tie_decodeConnect_WillQOS, tie_decodeConnect_WillFlag, tie_decodeConnect_CleanSeshFlag]
    simp

end Emitter.Tie.Mqtt
