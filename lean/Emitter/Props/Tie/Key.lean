/-
  Tie theorems for internal/security/key.go: every definition of `Emitter/Generated/GoKey.lean` (regenerated
  from the Go source by tools/go2lean on every run) equals the hand-written model of `Model/Security.lean`, for
  ALL inputs.  A change of the Go source changes the generated definition and the theorem about it stops
  compiling (or the translator refuses the function): the check of C03 / C11 / C12 reports the theorem's name.
  The proofs normalise modulo associativity / commutativity of the bitwise operators (`tie_ac`) and, for the setters,
  compare the 24 bytes one by one, so that re-ordering operands or statements and introducing locals is harmless.
  (`Tie.Id.put_word` and `Tie.Mqtt.tie_writeUint16` go through `Bits.set4` / `set2` instead, which is shorter but
  tied to the order of the stores: `GoPrelude` is fixed, and `writeUint16` has two stores.)
-/
import Emitter.Lemmas.Bits
import Emitter.Model.Security
import Emitter.Generated.GoKey
-- a value-preserving rewrite of the Go source may leave a simp argument unused; that is not an error
set_option linter.unusedSimpArgs false
namespace Emitter.Tie.Key
open Emitter Emitter.Security Emitter.Generated.GoKey

/-! ## accessors (no hypothesis on the length: an index past the end reads 0 on both sides) -/

theorem tie_Salt (k : Key) : goSalt k = k.salt := by
  simp only [goSalt, Key.salt, Key.b]
  rw [← Bits.or16] <;> tie_ac

theorem tie_Master (k : Key) : goMaster k = k.master := by
  simp only [goMaster, Key.master, Key.b]
  rw [← Bits.or16] <;> tie_ac

theorem tie_Contract (k : Key) : goContract k = k.contract := by
  simp only [goContract, Key.contract, Key.b]
  rw [← Bits.or32] <;> tie_ac

theorem tie_Signature (k : Key) : goSignature k = k.signature := by
  simp only [goSignature, Key.signature, Key.b]
  rw [← Bits.or32] <;> tie_ac

theorem tie_Permissions (k : Key) : goPermissions k = k.permissions := by
  simp only [goPermissions, Key.permissions, Key.b]

/-- the target hash read by `ValidateChannel` -/
theorem tie_ValidateChannel_target (k : Key) : goValidateChannel_target k = k.target := by
  simp only [goValidateChannel_target, Key.target, Key.b]
  rw [← Bits.or32] <;> tie_ac

/-- the 24-bit path read by `ValidateChannel` -/
theorem tie_ValidateChannel_targetPath (k : Key) : (goValidateChannel_targetPath k).toNat = k.targetPath := by
  have h : goValidateChannel_targetPath k = be32 0 (k.b 12) (k.b 13) (k.b 14) := by
    simp only [goValidateChannel_targetPath, Key.b]
    rw [← Bits.or24] <;> tie_ac
  have h12 := (k.b 12).toNat_lt
  have h13 := (k.b 13).toNat_lt
  have h14 := (k.b 14).toNat_lt
  rw [h]
  simp [be32, Key.targetPath]
  omega

theorem tie_IsMaster (k : Key) : goIsMaster k = k.isMaster := by
  simp [goIsMaster, Key.isMaster, tie_Permissions, permMaster, Generated.secAllowMaster]

theorem tie_HasPermission (k : Key) (flag : UInt8) : goHasPermission k flag = k.hasPermission flag := by
  simp only [goHasPermission, Key.hasPermission, tie_Permissions] <;> tie_ac

/-! the int64 arithmetic around the expiry field (`Key.Expires`, `Key.SetExpires`); 1262304000 is `keyTimeOffset` -/
def expireOf (x : UInt32) : Int64 :=
  if (decide (x.toUInt64.toInt64 > (0 : Int64))) then (1262304000 : Int64) + x.toUInt64.toInt64 else x.toUInt64.toInt64

theorem expireOf_toInt (x : UInt32) :
    (expireOf x).toInt = if (x.toNat : Int) > 0 then 1262304000 + (x.toNat : Int) else (x.toNat : Int) := by
  have h := x.toNat_lt
  have e := Bits.toInt_u32 x
  unfold expireOf
  simp only [decide_eq_true_eq, GT.gt, Int64.lt_iff_toInt_lt, e]
  have o : (1262304000 : Int64).toInt = 1262304000 := by decide
  rw [Int64.toInt_zero]
  split
  · rw [Int64.toInt_add, Int.bmod_eq_of_le_mul_two (by rw [o, e]; omega) (by rw [o, e]; omega), o, e]
  · exact e

def unexpireOf (u : Int64) : Int64 := if (decide (u > (0 : Int64))) then u - (1262304000 : Int64) else u

theorem unexpireOf_toInt (u : Int64) :
    (unexpireOf u).toInt = if u.toInt > 0 then u.toInt - 1262304000 else u.toInt := by
  have h1 := u.toInt_lt
  unfold unexpireOf
  simp only [decide_eq_true_eq, GT.gt, Int64.lt_iff_toInt_lt]
  have o : (1262304000 : Int64).toInt = 1262304000 := by decide
  rw [Int64.toInt_zero]
  split
  · rw [Int64.toInt_sub, Int.bmod_eq_of_le_mul_two (by rw [o]; omega) (by rw [o]; omega), o]
  · rfl

/-- `Expires()` before the conversion to `time.Time`: unix seconds as int64 -/
theorem tie_Expires (k : Key) : (goExpires_expire k).toInt = k.expires := by
  have h : goExpires_expire k = expireOf k.expireField := by
    simp only [goExpires_expire, expireOf, Key.expireField, Key.b, ← Bits.or32] <;> tie_ac
  rw [h, expireOf_toInt]
  simp [Key.expires, keyTimeOffset, Generated.secKeyTimeOffset]

/-! ## setters (the Go methods write into a 24-byte slice) -/

section
variable (k : Key) (h : k.length = 24)
include h

theorem tie_SetSalt (v : UInt16) : goSetSalt k v = k.setAt 0 (putBe16 v) := by
  refine Bits.forall_list24 ?_ k h
  intros
  simp [goSetSalt, Key.setAt, putBe16, Bits.hi8_16]

theorem tie_SetMaster (v : UInt16) : goSetMaster k v = k.setAt 2 (putBe16 v) := by
  refine Bits.forall_list24 ?_ k h
  intros
  simp [goSetMaster, Key.setAt, putBe16, Bits.hi8_16]

theorem tie_SetContract (v : UInt32) : goSetContract k v = k.setAt 4 (putBe32 v) := by
  refine Bits.forall_list24 ?_ k h
  intros
  simp [goSetContract, Key.setAt, putBe32, Bits.b1_32, Bits.b2_32, Bits.b3_32]

theorem tie_SetSignature (v : UInt32) : goSetSignature k v = k.setAt 8 (putBe32 v) := by
  refine Bits.forall_list24 ?_ k h
  intros
  simp [goSetSignature, Key.setAt, putBe32, Bits.b1_32, Bits.b2_32, Bits.b3_32]

theorem tie_SetPermissions (v : UInt8) : goSetPermissions k v = k.setPermissions v := by
  refine Bits.forall_list24 ?_ k h
  intros
  simp [goSetPermissions, Key.setPermissions, Key.setAt]

/-- `SetPermission(flag, true)` ors the flag in; `SetPermission(flag, false)` is the model's
`k.setPermissions (k.permissions &&& (0xFF ^^^ flag))` (createKey clears `master`, extendKey clears `extend`) -/
theorem tie_SetPermission (flag : UInt8) (value : Bool) :
    goSetPermission k flag value =
      if value then k.setPermissions (k.permissions ||| flag) else k.setPermissions (k.permissions &&& (0xFF ^^^ flag)) := by
  cases value <;>
    simp only [goSetPermission, tie_SetPermissions k h, tie_Permissions, Bits.not_eq_xor, if_true, if_false, Bool.false_eq_true] <;>
    tie_ac

/-- `SetExpires(t)` with `unix = t.Unix()` -/
theorem tie_SetExpires (unix : Int64) : goSetExpires k unix = k.setExpires unix.toInt := by
  have h1 : goSetExpires k unix = k.setAt 20 (putBe32 (unexpireOf unix).toUInt64.toUInt32) := by
    refine Bits.forall_list24 ?_ k h
    intros
    -- keep `(….toUInt32).toNat` intact: `b1_32 … b3_32` match `v.toNat / 256 ^ i`
    simp [goSetExpires, unexpireOf, Key.setAt, putBe32, Bits.b1_32, Bits.b2_32, Bits.b3_32, -UInt64.toNat_toUInt32]
  rw [h1, Bits.u32_of_i64, unexpireOf_toInt]
  simp [Key.setExpires, keyTimeOffset, Generated.secKeyTimeOffset]

/-- the byte stores at the end of `SetTarget`, as a function of the values of its locals `bitPath`, `value`
(`Key.setTarget` of the model ends with exactly this expression, `bitPath` being a natural number below 2^24) -/
theorem tie_SetTarget_stores (bitPath : Nat) (hb : bitPath < 4294967296) (value : UInt32) :
    goSetTarget_stores k (UInt32.ofNat bitPath) value =
      (k.setAt 12 [UInt8.ofNat (bitPath / 65536), UInt8.ofNat (bitPath / 256), UInt8.ofNat bitPath]).setAt 16 (putBe32 value) := by
  refine Bits.forall_list24 ?_ k h
  intros
  have e : bitPath = (UInt32.ofNat bitPath).toNat := (UInt32.toNat_ofNat_of_lt' hb).symm
  -- write `bitPath` as `bp.toNat`, the form `b1_32 … b3_32` rewrite
  generalize UInt32.ofNat bitPath = bp at e
  subst e
  simp [goSetTarget_stores, Key.setAt, putBe32, Bits.b1_32, Bits.b2_32, Bits.b3_32]
end

end Emitter.Tie.Key
