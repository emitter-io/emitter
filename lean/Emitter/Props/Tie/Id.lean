/-
  Tie theorems for internal/message/id.go: the definitions of `Emitter/Generated/GoId.lean` (regenerated from the
  Go source by tools/go2lean on every run) equal the hand-written model of message ids (`Model/Message.lean`,
  `Model/Storage.lean`) for ALL inputs.  `offset` is a package variable of the Go code (`int64(security.MinTime)`),
  hence a parameter of the translated functions; the theorems assume it has the regenerated value `timeOffset`.
-/
import Emitter.Lemmas.Bits
import Emitter.Model.Storage
import Emitter.Generated.GoId
-- a value-preserving rewrite of the Go source may leave a simp argument unused; that is not an error
set_option linter.unusedSimpArgs false
namespace Emitter.Tie.Id
open Emitter Emitter.Message Emitter.Generated.GoId Emitter.Generated.GoPrelude

/-- `binary.BigEndian.Uint32(b[i:i+4])` is the model's `word b i` -/
theorem be_word (b : Bytes) (i : Nat) : beUInt32 b i = word b i := Bits.or32_le ..

/-- `binary.BigEndian.PutUint32(b[i:i+4], v)` overwrites four bytes with the model's `putBe32 v` -/
theorem put_word (b : Bytes) (i : Nat) (v : UInt32) (h : i + 4 ≤ b.length) :
    putUInt32 b i v = b.take i ++ putBe32 v ++ b.drop (i + 4) := by
  unfold putUInt32 putBe32
  rw [Bits.set4 b i _ _ _ _ h, UInt8.ofNat_uInt32ToNat, Bits.b1_32, Bits.b2_32, Bits.b3_32]

theorem tie_Contract (id : Bytes) : goContract id = idContract id := by
  simp [goContract, idContract, fixed, Generated.msgFixed, be_word]

theorem tie_Time (id : Bytes) (off : Int64) (ho : off.toInt = timeOffset) : (goTime id off).toInt = idTime id := by
  have hw := ((4294967295 : UInt32) - word id 4).toNat_lt
  have e := Bits.toInt_u32 ((4294967295 : UInt32) - word id 4)
  have ho' : off.toInt = 1514764800 := by rw [ho]; rfl
  simp only [goTime, idTime, be_word, maxU32]
  rw [Int64.toInt_add, Int.bmod_eq_of_le_mul_two (by rw [ho']; omega) (by rw [ho']; omega), ho, e]

/-- `uint32(t - offset)` is the model's `relTime t` (whatever the int64 subtraction does on overflow) -/
theorem relTime_eq (t off : Int64) (ho : off.toInt = timeOffset) : (t - off).toUInt64.toUInt32 = relTime t.toInt := by
  rw [Bits.u32_of_sub, ho]; rfl

theorem tie_SetTime (id : Bytes) (t off : Int64) (ho : off.toInt = timeOffset) (h : 8 ≤ id.length) :
    goSetTime id t off = id.take 4 ++ putBe32 (maxU32 - relTime t.toInt) ++ id.drop 8 := by
  simp only [goSetTime, relTime_eq t off ho, put_word id 4 _ h]
  rfl

theorem tie_NewPrefix (ssid : Ssid) (t off : Int64) (ho : off.toInt = timeOffset) :
    goNewPrefix ssid t off = newPrefix ssid t.toInt := by
  simp only [goNewPrefix, newPrefix, relTime_eq t off ho]
  rw [put_word _ 0 _ (by simp), put_word _ 4 _ (by simp [putBe32])]
  simp [putBe32, maxU32]

theorem tie_HasPrefix (id : Bytes) (ssid : Ssid) (cutoff off : Int64) (ho : off.toInt = timeOffset) :
    goHasPrefix id ssid cutoff off = Storage.hasPrefix id ssid cutoff.toInt := by
  simp only [goHasPrefix, Storage.hasPrefix, be_word, GE.ge, Int64.le_iff_toInt_le, tie_Time id off ho]

end Emitter.Tie.Id
