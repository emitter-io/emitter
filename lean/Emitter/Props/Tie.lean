/-
  The regenerated tie for straight-line bit-level code (DESIGN §12.8): `tools/go2lean` translates the listed Go
  functions of /repo's working tree into `Emitter/Generated/Go*.lean` on every run; the theorems below state that each
  translated definition equals the hand-written model, for all inputs.
    Tie/Key.lean   internal/security/key.go        (imported by Props/C03, C11, C12)
    Tie/Id.lean    internal/message/id.go          (imported by Props/C06, C19)
    Tie/Mqtt.lean  internal/network/mqtt/mqtt.go   (imported by Props/C16)
-/
import Emitter.Props.Tie.Key
import Emitter.Props.Tie.Id
import Emitter.Props.Tie.Mqtt
