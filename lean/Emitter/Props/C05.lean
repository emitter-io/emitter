/-
  C05 — Cluster routing follows the replicated subscription state.
  Property-level statements; proofs are in Emitter/Lemmas/Cluster*.lean.

  Model: Emitter/Model/Cluster.lean — `Swarm.Notify`, `Swarm.merge` (after the D5 repair),
  `findPeer` / `onPeerOnline`, `onPeerOffline`, `Peer` counters and activity, the trie's remote
  entries, and the gossip transport (gossipSender buckets with union-coalescing, per-link FIFO,
  relay of returned deltas, complete-state gossip, links and peers going away and coming back).
  A schedule is any list of `Ev`; nothing bounds the number of brokers, events, connections.
-/
import Emitter.Lemmas.ClusterOwn
namespace Emitter.C05
open Emitter Emitter.Lww Emitter.Cluster

/-! ## 1. The routing invariant (the title of the property)

For every broker `b`, remote peer `p` and ssid `σ`: the peer's counter equals the number of
ACTIVE entries of (p, σ) in b's replicated state, and the trie routes σ to p iff that number is
positive. -/

def RoutingFollowsState (b : Broker) : Prop :=
  ∀ p, p ≠ b.self → ∀ σ,
    counterOf b p σ = cnt b.state p σ ∧ (hasRoute b.routes σ p = true ↔ 0 < cnt b.state p σ)

/-- it holds initially … -/
theorem routing_inv_init (mode : Trie.Mode) (n : Nat) (hn : n < 18446744073709551615) :
    ∀ b ∈ (Cluster.init mode n).brokers, RoutingFollowsState b :=
  fun b hb => binv_routing ((cinv_init mode n hn).brokers b hb)

/-- … is preserved by EVERY kind of step — client subscribe / unsubscribe / disconnect with any
clock reading (ties and clocks that step back included), coalescing pick, delivery in either walk
order with any relaying and duplication, periodic and on-connect complete-state gossip, link down /
up, peer touched / silent, peer garbage collection — unless the step takes a flagged branch
(`C05.offline-local-delete`, `C05.offline-deletes-own-key`, `C05.online-bypasses-counters`,
`C05.inactive-peer-transition`; `C05.clock-not-advancing` does not matter here) … -/
theorem routing_inv_step (c : Cluster) (e : Ev) (hc : CInv c)
    (hf : ∀ f ∈ (c.step e).2.flags, f = clockFlag) : CInv (c.step e).1 := cinv_step c e hc hf

/-- … hence holds after every schedule: all client histories × all transport schedules. -/
theorem routing_inv (mode : Trie.Mode) (n : Nat) (hn : n < 18446744073709551615) (evs : List Ev)
    (hf : ∀ f ∈ ((Cluster.init mode n).run evs).2, f = clockFlag) :
    ∀ b ∈ ((Cluster.init mode n).run evs).1.brokers, RoutingFollowsState b :=
  fun b hb => binv_routing ((cinv_run evs (cinv_init mode n hn) hf).brokers b hb)

/-- The merge of ANY payload without repeated keys — single operations, coalesced unions, relayed
deltas, complete states, stale or duplicated ones, whatever a transport can deliver — keeps the
invariant, in every order in which the delta (a Go map) can be walked. -/
theorem merge_keeps_routing (ord : List Bytes → List Bytes) (b : Broker) (r : Map) (hb : BInv b) (hr : NoDup r)
    (hord : (ord ((merge b.state r).2.map Prod.fst)).Perm ((merge b.state r).2.map Prod.fst))
    (hf : (mergeStepOrd ord b r).flags = []) :
    RoutingFollowsState (mergeStepOrd ord b r).broker :=
  binv_routing (binv_mergeOrd hb hr hord hf)

/-- the replicated state itself evolves as the LWW maps of C04 / C13 do (so `C04.converge` and
`C13.relay_sufficient` speak about the states of this model) -/
theorem state_is_lww (ord : List Bytes → List Bytes) (b : Broker) (r : Map) (c : ConnId) (σ : Ssid) (now : Int) :
    (mergeStepOrd ord b r).broker.state = (merge b.state r).1 ∧
    (mergeStepOrd ord b r).delta = (if (merge b.state r).2.isEmpty then none else some (merge b.state r).2) ∧
    ((c, σ) ∉ b.locals → (localSub b c σ now).broker.state = add b.state (encKey b.self c σ) now []) ∧
    ((c, σ) ∈ b.locals → (localUnsub b c σ now).broker.state = del b.state (encKey b.self c σ) now) := by
  refine ⟨(mergeOrd_keeps ord b r).state, rfl, ?_, ?_⟩
  · intro h
    simp [localSub, h]
  · intro h
    simp [localUnsub, h]

/-! ## 2. Routing at quiescence -/

/-- Once every broker holds the same state (C04: every update reached every broker), own
entries tell the truth about the clients, and the known peers are active: a message published on
broker `a` is forwarded to EXACTLY the other brokers that have a live local subscriber whose
filter matches it (so a broker whose last matching subscriber left is no longer forwarded to). -/
theorem quiescent_routing (c : Cluster) (hc : CInv c) (a : Broker) (ha : a ∈ c.brokers)
    (heq : ∀ x ∈ c.brokers, Equiv a.state x.state)
    (hown : ∀ x ∈ c.brokers, OwnTruth x)
    (hact : ∀ p r, mget a.members p = some r → r.active = true)
    (hpeers : ∀ p σ, 0 < cnt a.state p σ → ∃ y ∈ c.brokers, y.self = p)
    (q : Ssid) (p : PeerName) :
    p ∈ forwardTo c.mode a q ↔
      p ≠ a.self ∧ ∃ y ∈ c.brokers, y.self = p ∧ ∃ cn σ, (cn, σ) ∈ y.locals ∧ Trie.matchesMode c.mode σ q = true :=
  forward_exact c.mode ha hc.brokers heq hown hact hpeers q p

/-- The same for every reachable cluster state, with the side conditions discharged: after ANY
schedule of well-formed events that raised no flag, if gossip has quiesced (every broker holds
the same add / remove times — C04's conclusion once every update has reached every broker) and
the peers a broker knows are active, a publish on any broker `a` is forwarded to exactly the other
brokers with a live local subscription whose filter matches. (`own_truth_run`: on such schedules
a broker's own entries are active exactly for its live subscriptions — nobody else ever stamps
them — and every active entry names a broker of the cluster.) -/
theorem quiescent_routing_run (mode : Trie.Mode) (n : Nat) (hn : n < 18446744073709551615) (evs : List Ev)
    (hok : ∀ e ∈ evs, e.ok) (hf : ((Cluster.init mode n).run evs).2 = [])
    (heq : ∀ x ∈ ((Cluster.init mode n).run evs).1.brokers, ∀ y ∈ ((Cluster.init mode n).run evs).1.brokers,
      Equiv x.state y.state)
    (hact : ∀ x ∈ ((Cluster.init mode n).run evs).1.brokers, ∀ p r, mget x.members p = some r → r.active = true)
    (a : Broker) (ha : a ∈ ((Cluster.init mode n).run evs).1.brokers) (q : Ssid) (p : PeerName) :
    p ∈ forwardTo mode a q ↔
      p ≠ a.self ∧ ∃ y ∈ ((Cluster.init mode n).run evs).1.brokers, y.self = p ∧
        ∃ cn σ, (cn, σ) ∈ y.locals ∧ Trie.matchesMode mode σ q = true := by
  have hc : CInv ((Cluster.init mode n).run evs).1 :=
    cinv_run evs (cinv_init mode n hn) (by rw [hf]; intro f hfm; cases hfm)
  have hown := own_truth_run mode n hn evs hok hf
  exact forward_exact mode ha hc.brokers (heq a ha) hown.1 (hact a ha) (hown.2 a ha) q p

/-- … each broker at most once, and on a broker the message is written to every local direct
subscriber with a matching filter exactly once, and never forwarded again (`onPeerMessage`
looks up direct subscribers only). -/
theorem delivered_once (mode : Trie.Mode) (b : Broker) (q : Ssid) :
    (forwardTo mode b q).Nodup ∧ (localTo mode b q).Nodup ∧
    ∀ cn, cn ∈ localTo mode b q ↔ ∃ σ, (cn, σ) ∈ b.locals ∧ Trie.matchesMode mode σ q = true :=
  ⟨nodup_eraseDups _, nodup_eraseDups _, mem_localTo mode b q⟩

/-! ## 3. Bursts and ties: the add bias, stated explicitly -/

/-- a subscribe and an unsubscribe stamped with the SAME clock reading leave the entry active
(`IsAdded`: add ≥ remove): the invariant above survives (routing follows the state), but the
state no longer tells the truth about the client — flag `C05.clock-not-advancing` -/
theorem tie_add_bias (s : Map) (k : Bytes) (now : Int) (p : Bytes)
    (h : (get s k).add < now ∧ (get s k).del ≤ now) (hnow : 0 < now) :
    has (del (add s k now p) k now) k = true := by
  have e := get_add_self s k now p h.1
  rw [has_del_of_le (by rw [e]; exact Int.le_refl now), has, e, isAdded_iff]
  exact ⟨Int.ne_of_gt hnow, h.2⟩

/-- sub; unsub; sub within one clock reading: the third operation finds add = now already and
changes nothing, the entry is active — state and client agree again -/
theorem burst_tie (s : Map) (k : Bytes) (now : Int) (p p' : Bytes)
    (h : (get s k).add < now ∧ (get s k).del ≤ now) (hnow : 0 < now) :
    add (del (add s k now p) k now) k now p' = del (add s k now p) k now ∧
    has (add (del (add s k now p) k now) k now p') k = true := by
  have e : add (del (add s k now p) k now) k now p' = del (add s k now p) k now := by
    refine add_of_le _ ?_
    rw [del_eq]
    split
    · rw [get_set, if_pos rfl, get_add_self s k now p h.1]; exact Int.le_refl now
    · rw [get_add_self s k now p h.1]; exact Int.le_refl now
  exact ⟨e, by rw [e]; exact tie_add_bias s k now p h hnow⟩

/-- the same at the level of a broker: one connection, one channel, one clock reading -/
theorem burst_on_a_broker :
    let b0 : Broker := { self := 1 }
    let b3 := (localSub (localUnsub (localSub b0 7 [1, 10] 5).broker 7 [1, 10] 5).broker 7 [1, 10] 5).broker
    has b3.state (encKey 1 7 [1, 10]) = true ∧ b3.locals = [(7, [1, 10])] ∧
    (localSub (localUnsub (localSub b0 7 [1, 10] 5).broker 7 [1, 10] 5).broker 7 [1, 10] 5).flags = [] := by decide +kernel

/-! ## 4. What the flags exclude: each flagged branch breaks the property (witnesses) -/

private def kx : Bytes := encKey 2 7 [1, 10]
private def ky : Bytes := encKey 2 8 [1, 20]
private def b0 : Broker := { self := 1 }

/-- D5 (a), the UNREPAIRED `Swarm.merge`: (5,0), then unsubscribe@7 and subscribe@10 in one
payload: one active entry, counter 2 — a final unsubscribe leaves the route for ever -/
theorem legacy_readd_double_counts :
    let b1 := (mergeLegacy b0 [(kx, ⟨5, 0, []⟩)]).broker
    let b2 := (mergeLegacy b1 [(kx, ⟨10, 7, []⟩)]).broker
    let b3 := (mergeLegacy b2 [(kx, ⟨0, 12, []⟩)]).broker
    counterOf b2 2 [1, 10] = 2 ∧ cnt b2.state 2 [1, 10] = 1 ∧
    cnt b3.state 2 [1, 10] = 0 ∧ hasRoute b3.routes [1, 10] 2 = true := by decide +kernel

/-- D5 (b), the UNREPAIRED `Swarm.merge`: a remove older than the current add arrives late and
unroutes a live subscriber -/
theorem legacy_stale_remove_unroutes :
    let b1 := (mergeLegacy b0 [(ky, ⟨10, 0, []⟩)]).broker
    let b2 := (mergeLegacy b1 [(ky, ⟨0, 7, []⟩)]).broker
    cnt b2.state 2 [1, 20] = 1 ∧ hasRoute b2.routes [1, 20] 2 = false := by decide +kernel

/-- the repaired merge on the same inputs -/
theorem repaired_on_the_same_inputs :
    let b1 := (mergeStep .forward b0 [(kx, ⟨5, 0, []⟩)]).broker
    let b2 := (mergeStep .forward b1 [(kx, ⟨10, 7, []⟩)]).broker
    let b3 := (mergeStep .forward b2 [(kx, ⟨0, 12, []⟩)]).broker
    let c1 := (mergeStep .forward b0 [(ky, ⟨10, 0, []⟩)]).broker
    let c2 := (mergeStep .forward c1 [(ky, ⟨0, 7, []⟩)]).broker
    counterOf b2 2 [1, 10] = 1 ∧ hasRoute b3.routes [1, 10] 2 = false ∧
    cnt c2.state 2 [1, 20] = 1 ∧ hasRoute c2.routes [1, 20] 2 = true := by decide +kernel

/-- the full statement, without the flag hypothesis: routing follows the state after EVERY step -/
def RoutingAfterEveryStep : Prop :=
  ∀ (b : Broker), BInv b → ∀ (p : PeerName) (now : Int), RoutingFollowsState (offline b p now).1

/-- finding `C05.offline-local-delete`: garbage collection drops the routes of a peer whose
entries stay active (the remove it stamps lands on the key (self, conn, ssid)) -/
theorem offline_refuted :
    let b1 := (mergeStep .forward b0 [(kx, ⟨5, 0, []⟩)]).broker
    let r := offline b1 2 9
    r.2 = ["C05.offline-local-delete"] ∧ cnt r.1.state 2 [1, 10] = 1 ∧ hasRoute r.1.routes [1, 10] 2 = false ∧
    get r.1.state (encKey 1 7 [1, 10]) = ⟨0, 9, []⟩ := by decide +kernel

/-- … hence the unconditional statement is false of the code: peer garbage collection breaks it -/
theorem routing_after_every_step_refuted : ¬ RoutingAfterEveryStep := by
  intro h
  have hb0 : BInv b0 := binv_init 1 (by decide)
  have hb1 : BInv (mergeStep .forward b0 [(kx, ⟨5, 0, []⟩)]).broker := by
    apply binv_mergeOrd hb0 (nodup_singleton _ _)
    · exact List.Perm.refl _
    · decide
  have := (h _ hb1 2 9 2 (by decide) [1, 10]).2
  revert this
  decide

/-- finding `C05.online-bypasses-counters`: the peer object is created again by a later update,
the old entry is routed without being counted, its removal finds no counter: the route stays -/
theorem online_bypass_refuted :
    let b1 := (mergeStep .forward b0 [(kx, ⟨5, 0, []⟩)]).broker
    let b2 := (offline b1 2 9).1
    let m3 := mergeStep .forward b2 [(ky, ⟨11, 0, []⟩)]
    let m4 := mergeStep .forward m3.broker [(kx, ⟨0, 12, []⟩)]
    m3.flags = ["C05.online-bypasses-counters"] ∧
    cnt m4.broker.state 2 [1, 10] = 0 ∧ hasRoute m4.broker.routes [1, 10] 2 = true := by decide +kernel

/-- finding `C05.inactive-peer-transition`: a first subscription processed while the peer
counts as inactive is counted but never routed, also after the peer is touched again -/
theorem inactive_transition_refuted :
    let b1 := (mergeStep .forward b0 [(kx, ⟨5, 0, []⟩)]).broker
    let m2 := mergeStep .forward (expire b1 2) [(ky, ⟨6, 0, []⟩)]
    let b3 := touch m2.broker 2
    m2.flags = ["C05.inactive-peer-transition"] ∧
    counterOf b3 2 [1, 20] = 1 ∧ cnt b3.state 2 [1, 20] = 1 ∧ hasRoute b3.routes [1, 20] 2 = false := by decide +kernel

/-- finding `C05.offline-deletes-own-key`: the connection ids of two brokers coincide -/
theorem offline_own_key_refuted :
    let b1 := (localSub b0 7 [1, 10] 3).broker
    let b2 := (mergeStep .forward b1 [(kx, ⟨5, 0, []⟩)]).broker
    let r := offline b2 2 9
    r.2 = ["C05.offline-local-delete", "C05.offline-deletes-own-key"] ∧
    (7, [1, 10]) ∈ r.1.locals ∧ has r.1.state (encKey 1 7 [1, 10]) = false := by decide +kernel

/-- finding `C05.clock-not-advancing`: sub; unsub within one clock reading -/
theorem clock_tie_refuted :
    let r1 := localSub b0 7 [1, 10] 5
    let r2 := localUnsub r1.broker 7 [1, 10] 5
    r2.flags = ["C05.clock-not-advancing"] ∧ r2.broker.locals = [] ∧
    has r2.broker.state (encKey 1 7 [1, 10]) = true := by decide +kernel

/-! ## non-vacuity: a three-broker schedule with coalescing, relaying and a duplicate -/

private def σa : Ssid := [1, 10]
private def demo : List Ev :=
  [.sub 1 7 σa 5, .unsub 1 7 σa 7, .sub 1 7 σa 10,          -- burst on broker 1, coalesced on both links
   .pick 1 2 1, .deliver 1 2 [3] true .forward, .deliver 1 2 [] false .reverse,   -- delivered twice, relayed to 3
   .pick 2 3 1, .deliver 2 3 [] false .forward,
   .gossip 3 1, .pick 3 1 0, .deliver 3 1 [2] false .forward,
   .sub 3 4 [1, Trie.wildcard] 11, .pick 3 1 3, .pick 3 2 3, .deliver 3 2 [] false .forward, .deliver 3 1 [] false .forward]

example : ((Cluster.init .emitter 3).run demo).2 = [] := by decide +kernel
example : (((Cluster.init .emitter 3).run demo).1.brokers.map (fun b => (b.self, b.routes.map (fun r => (r.1, r.2.1))))) =
    [(1, [([1, Trie.wildcard], 3)]), (2, [([1, Trie.wildcard], 3), (σa, 1)]), (3, [(σa, 1)])] := by decide +kernel
example : (((Cluster.init .emitter 3).run demo).1.publish 2 [1, 10, 99]).fwd = [3, 1] := by decide +kernel

end Emitter.C05
