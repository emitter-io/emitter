/-
  C13, second sentence, as a statement about any payload implementation `I` plugged into the transcribed
  gossipSender (Model/Gossip.lean): "when several payloads are queued for the same link and combined by the
  gossip transport, the payload finally sent carries every update that was in any of them".
-/
import Emitter.Model.Gossip
import Emitter.Lemmas.Lww

namespace Emitter.Gossip
open Emitter Emitter.Lww

/-- join of a collection of states on set `i`, key `k`: largest add time, largest remove time -/
def sjoin (vs : List State) (i : SetId) (k : Bytes) : Int × Int := joinT (vs.map (·.sel i)) k

/-- the value an object holds now (`{}` for a dangling reference) -/
def curValue (h : Heap) (r : Ref) : State := (h[r]?.map (·.st)).getD {}

/-- One emission is good: something is sent, and on every set and key its times are
 * at least the join of the values the queued objects had WHEN THEY WERE QUEUED (no update lost), and
 * at most the join of the values those objects hold at the moment of the pick (nothing invented).
For objects that did not change while queued the two bounds coincide and the emission is exactly the join. -/
def GoodEmission (sent : Option State) (queued : List (Ref × State)) (h : Heap) : Prop :=
  ∃ x, sent = some x ∧ ∀ i k,
    tle (sjoin (queued.map (·.2)) i k) (tget (x.sel i) k) ∧
    tle (tget (x.sel i) k) (sjoin (queued.map fun e => curValue h e.1) i k)

/-- a panic or a deadlock inside `Send` / `Broadcast` is never good -/
def GoodEvent : Event → Prop
  | .emitted _ _ sent q h => GoodEmission sent q h
  | .panicked _ _ => False
  | .hung _ _ => False

variable {D : Type}

/-- nothing queued is ever dropped: whenever something was queued on a bucket since its last pick, a payload
is pending there, and sending it now would be a good emission -/
def GoodPending (I : Impl D) (w : World D) : Prop :=
  ∀ l b, (w.links l).ghost b ≠ [] →
    ∃ d, (w.links l).bk b = some (some d) ∧ GoodEmission (I.read w.heap d) ((w.links l).ghost b) w.heap

def HeapOk (h : Heap) : Prop := ∀ o ∈ h, StateOk o.st

/-- what may be assumed of a call: the swarm only ever replaces an object's value by a larger one (the live
state: local add / remove / merge, see `add_grows`, `del_grows`, `merge_grows`) that keeps the invariants -/
def CallOk (h : Heap) : Call → Prop
  | .grow r v => StateOk v ∧ ∀ i k, tle (tget ((curValue h r).sel i) k) (tget (v.sel i) k)
  | _ => True

def CallsOk (I : Impl D) (w : World D) : List Call → Prop
  | [] => True
  | c :: cs => CallOk w.heap c ∧ CallsOk I (step I w c).1 cs

/-- no object handed to the library is modified by it ("no object another link still holds loses an update") -/
def Intact (I : Impl D) : Prop :=
  ∀ (w : World D) (l : Nat) (b : Bucket) (r : Ref), (put I w l b r).1.heap = w.heap ∧ (pick I w l b).1.heap = w.heap

/-- The full statement: for every heap of payload objects (shared between links or not, the live state among them),
every sequence of `Send` / `Broadcast` / `pick` calls on any links, interleaved with changes of the live state:
every emission is good, no call panics or hangs, nothing queued is dropped, and no object is modified. -/
def SenderUnion (I : Impl D) : Prop :=
  (∀ (h : Heap) (cs : List Call), HeapOk h → CallsOk I { heap := h } cs →
      (∀ e ∈ (run I { heap := h } cs).2, GoodEvent e) ∧ GoodPending I (run I { heap := h } cs).1) ∧
  Intact I

end Emitter.Gossip
